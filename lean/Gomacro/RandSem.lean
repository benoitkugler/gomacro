import Gomacro.GoJson
/-!
`Sem/RandSem`: the functions emitted by generator/go/randdata as a program over an explicit stream
of random draws, and the well-formedness predicate of C15.

`gen env fuel t draws = none` means: still running after `fuel` nested calls (for cyclic types:
never returns), or the generated code panics (`rand.Intn(0)` for an enum without exported member).
-/
namespace Gomacro.RandSem
open Gomacro.IR Gomacro.GoJson

def dataIgnored (f : Field) : Bool := !f.goExported || Tags.get f.tag "gomacro-data" == "ignore"

mutual
/-- the zero value of a type, as far as the well-formedness predicate looks at it -/
def isZero : GoVal → Bool
  | .bool b => !b
  | .int r => r == "0"
  | .float r => r == "0"
  | .str s => s == ""
  | .time _ => true          -- not inspected (zero time prints as year 1)
  | .list true isNil es => isNil && es.isEmpty
  | .list false _ es => isZeroAll es
  | .bytes isNil _ => isNil
  | .map isNil kvs => isNil && kvs.isEmpty
  | .struct fs => isZeroFields fs
  | .iface m => m.isNone
def isZeroAll : List GoVal → Bool
  | [] => true
  | v :: vs => isZero v && isZeroAll vs
def isZeroFields : List (String × GoVal) → Bool
  | [] => true
  | (_, v) :: fs => isZero v && isZeroFields fs
end

/-- does a dumped value equal the enum constant `m`? -/
def valueMatches (m : Member) : GoVal → Bool
  | .bool b => (m.valStr == "true") == b
  | .int r => m.valStr == r
  | .float r => m.valStr == r
  | .str s => m.str == s
  | _ => false

def nameOfTy (env : Env) : Ty → String
  | .ref q => (match env.find? q with | some d => d.name | none => "")
  | _ => ""

mutual
/-- **well-formed** (C15): enum components are exported constants, union components are non-nil
members, containers are populated with well-formed elements, skipped fields are zero -/
def wellFormed (env : Env) : Nat → Ty → GoVal → Bool
  | 0, _, _ => false
  | fuel + 1, t, v =>
    match t, v with
    | .basic _ _, .bool _ => true
    | .basic _ _, .int _ => true
    | .basic _ _, .float _ => true
    | .basic _ _, .str _ => true
    | .time _, .time _ => true
    | .arr n e, .list false _ es => es.length == n.toNat && wellFormedAll env fuel e es
    | .arr _ e, .list true isNil es => !isNil && !es.isEmpty && wellFormedAll env fuel e es
    | .arr _ _, .bytes isNil b => !isNil && b != ""
    | .map k e, .map isNil kvs => !isNil && !kvs.isEmpty && wellFormedEntries env fuel k e kvs
    | .ptr e, v => wellFormed env fuel e v
    | .ref q, v =>
      match env.find? q with
      | none => false
      | some d =>
        match d.body, v with
        | .named u, v => wellFormed env fuel u v
        | .enum _ _ ms _, v => ms.any fun m => m.exported && valueMatches m v
        | .struct fs _ _, .struct vals => wellFormedFields env fuel fs vals
        | .union ms, .iface (some (name, mv)) => wellFormedMember env fuel ms name mv
        | _, _ => false
    | _, _ => false

/-- the value is a well-formed value of one of the members, the one whose local name is `name` -/
def wellFormedMember (env : Env) : Nat → List Ty → String → GoVal → Bool
  | _, [], _, _ => false
  | fuel, m :: ms, name, mv =>
    (nameOfTy env m == name && wellFormed env fuel m mv) || wellFormedMember env fuel ms name mv

def wellFormedAll (env : Env) : Nat → Ty → List GoVal → Bool
  | _, _, [] => true
  | fuel, e, v :: vs => wellFormed env fuel e v && wellFormedAll env fuel e vs

def wellFormedEntries (env : Env) : Nat → Ty → Ty → List (GoVal × GoVal) → Bool
  | _, _, _, [] => true
  | fuel, k, e, (kv, v) :: rest =>
    wellFormed env fuel k kv && wellFormed env fuel e v && wellFormedEntries env fuel k e rest

def wellFormedFields (env : Env) : Nat → List Field → List (String × GoVal) → Bool
  | _, [], _ => true
  | fuel, f :: fs, vals =>
    (match vals.lookup f.name with
     | some v => if dataIgnored f then isZero v else wellFormed env fuel f.ty v
     | none => dataIgnored f) && wellFormedFields env fuel fs vals
end

theorem wellFormedFields_eq (env : Env) (fuel : Nat) (fs : List Field) (vals : List (String × GoVal)) :
    wellFormedFields env fuel fs vals = fs.all fun f =>
      match vals.lookup f.name with
      | some v => if dataIgnored f then isZero v else wellFormed env fuel f.ty v
      | none => dataIgnored f := by
  induction fs with
  | nil => simp only [wellFormedFields, List.all_nil]
  | cons f fs ih => simp only [wellFormedFields, List.all_cons, ih]

/-- an entry under a name that no field bears is not looked at -/
theorem wellFormedFields_cons_of_not_mem {env : Env} {fuel : Nat} {fs : List Field} {k : String}
    (h : k ∉ fs.map (·.name)) (v : GoVal) (vals : List (String × GoVal)) :
    wellFormedFields env fuel fs ((k, v) :: vals) = wellFormedFields env fuel fs vals := by
  rw [wellFormedFields_eq, wellFormedFields_eq, Bool.eq_iff_iff, List.all_eq_true, List.all_eq_true]
  refine forall₂_congr fun g hg => ?_
  rw [List.lookup_cons, beq_eq_false_iff_ne.mpr fun e : g.name = k => h (e ▸ List.mem_map_of_mem hg)]

/-! ### the generated functions as programs over a stream of draws -/

def draw : List Nat → Nat × List Nat
  | [] => (0, [])
  | d :: ds => (d, ds)

def exportedMembers (ms : List Member) : List Member := ms.filter (·.exported)

def memberGoVal (bk : BKind) (m : Member) : GoVal :=
  match bk with
  | .bool => .bool (m.valStr == "true")
  | .int => .int m.valStr
  | .float => .float m.valStr
  | _ => .str m.str

mutual
def gen (env : Env) : Nat → Ty → List Nat → Option (GoVal × List Nat)
  | 0, _, _ => none
  | fuel + 1, t, ds =>
    match t with
    | .basic _ bk =>
      let (d, ds) := draw ds
      (match bk with
       | .bool => some (.bool (d % 2 == 1), ds)
       | .int => some (.int (toString (d % 1000000)), ds)
       | .float => some (.float (toString d), ds)
       | .str => some (.str ("s" ++ toString d), ds)
       | .none => none)
    | .time _ => let (d, ds) := draw ds; some (.time (toString d), ds)
    | .arr n e =>
      if n ≥ 0 then (genN env fuel e n.toNat ds).map fun (es, ds) => (.list false false es, ds)
      else
        let (d, ds) := draw ds
        (genN env fuel e (3 + d % 5) ds).map fun (es, ds) => (.list true false es, ds)
    | .map k e =>
      let (d, ds) := draw ds
      (genEntries env fuel k e (40 + d % 10) ds).map fun (kvs, ds) => (.map false kvs, ds)
    | .ptr e => gen env fuel e ds
    | .ref q =>
      match env.find? q with
      | none => none
      | some dcl =>
        match dcl.body with
        | .named u => gen env fuel u ds
        | .enum _ bk ms _ =>
          let ex := exportedMembers ms
          let (d, ds) := draw ds
          (match ex[d % ex.length]? with     -- `rand.Intn(0)` panics when there is no exported member
           | some m => if ex.isEmpty then none else some (memberGoVal bk m, ds)
           | none => none)
        | .struct fs _ _ => (genFields env fuel fs ds).map fun (vals, ds) => (.struct vals, ds)
        | .union ms =>
          -- every member generator runs (`choix := [...]U{randA(), randB()}`), then one is picked
          (genMembers env fuel ms ds).bind fun (vals, ds) =>
            let (d, ds) := draw ds
            match vals[d % vals.length]? with
            | some (name, v) => if vals.isEmpty then none else some (.iface (some (name, v)), ds)
            | none => none

def genN (env : Env) : Nat → Ty → Nat → List Nat → Option (List GoVal × List Nat)
  | _, _, 0, ds => some ([], ds)
  | fuel, e, n + 1, ds =>
    match gen env fuel e ds with
    | none => none
    | some (v, ds) => (genN env fuel e n ds).map fun (vs, ds) => (v :: vs, ds)

def genEntries (env : Env) : Nat → Ty → Ty → Nat → List Nat → Option (List (GoVal × GoVal) × List Nat)
  | _, _, _, 0, ds => some ([], ds)
  | fuel, k, e, n + 1, ds =>
    match gen env fuel k ds with
    | none => none
    | some (kv, ds) =>
      match gen env fuel e ds with
      | none => none
      | some (v, ds) => (genEntries env fuel k e n ds).map fun (rest, ds) => ((kv, v) :: rest, ds)

def genFields (env : Env) : Nat → List Field → List Nat → Option (List (String × GoVal) × List Nat)
  | _, [], ds => some ([], ds)
  | fuel, f :: fs, ds =>
    if dataIgnored f then genFields env fuel fs ds
    else
      match gen env fuel f.ty ds with
      | none => none
      | some (v, ds) => (genFields env fuel fs ds).map fun (rest, ds) => ((f.name, v) :: rest, ds)

def genMembers (env : Env) : Nat → List Ty → List Nat → Option (List (String × GoVal) × List Nat)
  | _, [], ds => some ([], ds)
  | fuel, m :: ms, ds =>
    let name := nameOfTy env m
    match gen env fuel m ds with
    | none => none
    | some (v, ds) => (genMembers env fuel ms ds).map fun (rest, ds) => ((name, v) :: rest, ds)
end

/-! one step of each list generator, in bind form -/

theorem genN_succ (env : Env) (fuel : Nat) (e : Ty) (n : Nat) (ds : List Nat) :
    genN env fuel e (n + 1) ds = (gen env fuel e ds).bind fun (v, ds) =>
      (genN env fuel e n ds).map fun (vs, ds) => (v :: vs, ds) := by
  rw [genN]; cases gen env fuel e ds <;> rfl

theorem genEntries_succ (env : Env) (fuel : Nat) (k e : Ty) (n : Nat) (ds : List Nat) :
    genEntries env fuel k e (n + 1) ds = (gen env fuel k ds).bind fun (kv, ds) =>
      (gen env fuel e ds).bind fun (v, ds) =>
        (genEntries env fuel k e n ds).map fun (rest, ds) => ((kv, v) :: rest, ds) := by
  rw [genEntries]
  cases gen env fuel k ds with
  | none => rfl
  | some p =>
    obtain ⟨kv, ds1⟩ := p
    dsimp only [Option.bind_some]
    cases gen env fuel e ds1 <;> rfl

theorem genMembers_cons (env : Env) (fuel : Nat) (m : Ty) (ms : List Ty) (ds : List Nat) :
    genMembers env fuel (m :: ms) ds = (gen env fuel m ds).bind fun (v, ds) =>
      (genMembers env fuel ms ds).map fun (rest, ds) => ((nameOfTy env m, v) :: rest, ds) := by
  rw [genMembers]; cases gen env fuel m ds <;> rfl

theorem genFields_cons (env : Env) (fuel : Nat) (f : Field) (fs : List Field) (ds : List Nat) :
    genFields env fuel (f :: fs) ds = if dataIgnored f then genFields env fuel fs ds else
      (gen env fuel f.ty ds).bind fun (v, ds) =>
        (genFields env fuel fs ds).map fun (rest, ds) => ((f.name, v) :: rest, ds) := by
  rw [genFields]; cases gen env fuel f.ty ds <;> rfl

/-! the function of a named type, by the body of its declaration -/

section
variable {env : Env} {fuel : Nat} {q : String} {d : Decl} (hd : env.find? q = some d)
include hd

theorem gen_named {u : Ty} (hb : d.body = .named u) (ds : List Nat) :
    gen env (fuel + 1) (.ref q) ds = gen env fuel u ds := by
  simp only [gen, hd, hb]

/-- `rand.Intn(0)` panics: without exported member the lookup fails already, so the emptiness test
adds nothing -/
theorem gen_enum {un : String} {bk : BKind} {ms : List Member} {io : Bool} (hb : d.body = .enum un bk ms io)
    (ds : List Nat) :
    gen env (fuel + 1) (.ref q) ds = (exportedMembers ms)[(draw ds).1 % (exportedMembers ms).length]?.map
      fun m => (memberGoVal bk m, (draw ds).2) := by
  simp only [gen, hd, hb]
  cases exportedMembers ms with
  | nil => rfl
  | cons a l => generalize (a :: l)[(_ : Nat)]? = o; cases o <;> rfl

theorem gen_struct {fs : List Field} {cs im} (hb : d.body = .struct fs cs im) (ds : List Nat) :
    gen env (fuel + 1) (.ref q) ds = (genFields env fuel fs ds).map fun (vals, ds) => (.struct vals, ds) := by
  simp only [gen, hd, hb]

theorem gen_union {ms : List Ty} (hb : d.body = .union ms) (ds : List Nat) :
    gen env (fuel + 1) (.ref q) ds = (genMembers env fuel ms ds).bind fun (vals, ds) =>
      vals[(draw ds).1 % vals.length]?.map fun (name, v) => (.iface (some (name, v)), (draw ds).2) := by
  simp only [gen, hd, hb]
  congr 1; funext ⟨vals, ds⟩
  cases vals with
  | nil => rfl
  | cons a l => dsimp only; generalize (a :: l)[(_ : Nat)]? = o; cases o <;> rfl

end

/-! ### a static check under which the generated functions return -/

mutual
/-- the recursion of `gen` on the static type only: every named type is declared, no unsupported
basic kind, every enum has an exported constant (`rand.Intn(0)` panics), every union a member, and
the nesting of calls stays within `fuel` -/
def returns (env : Env) : Nat → Ty → Bool
  | 0, _ => false
  | fuel + 1, t =>
    match t with
    | .basic _ bk => bk != .none
    | .time _ => true
    | .arr n e => n == 0 || returns env fuel e          -- a zero-length array calls nothing
    | .map k e => returns env fuel k && returns env fuel e
    | .ptr e => returns env fuel e
    | .ref q =>
      match env.find? q with
      | none => false
      | some d =>
        match d.body with
        | .named u => returns env fuel u
        | .enum _ _ ms _ => !(exportedMembers ms).isEmpty
        | .struct fs _ _ => returnsFields env fuel fs
        | .union ms => !ms.isEmpty && returnsAll env fuel ms
def returnsFields (env : Env) : Nat → List Field → Bool
  | _, [] => true
  | fuel, f :: fs => (dataIgnored f || returns env fuel f.ty) && returnsFields env fuel fs
def returnsAll (env : Env) : Nat → List Ty → Bool
  | _, [] => true
  | fuel, m :: ms => returns env fuel m && returnsAll env fuel ms
end

theorem returnsFields_mem (env : Env) (fuel : Nat) : ∀ (fs : List Field), returnsFields env fuel fs = true →
    ∀ f ∈ fs, dataIgnored f = false → returns env fuel f.ty = true
  | [], _, f, hf, _ => by simp at hf
  | g :: gs, h, f, hf, hi => by
    simp only [returnsFields, Bool.and_eq_true, Bool.or_eq_true] at h
    rcases List.mem_cons.mp hf with rfl | hf
    · rcases h.1 with h1 | h1
      · rw [hi] at h1; simp at h1
      · exact h1
    · exact returnsFields_mem env fuel gs h.2 f hf hi

theorem returnsAll_mem (env : Env) (fuel : Nat) : ∀ (ms : List Ty), returnsAll env fuel ms = true →
    ∀ m ∈ ms, returns env fuel m = true
  | [], _, m, hm => by simp at hm
  | x :: xs, h, m, hm => by
    simp only [returnsAll, Bool.and_eq_true] at h
    rcases List.mem_cons.mp hm with rfl | hm
    · exact h.1
    · exact returnsAll_mem env fuel xs h.2 m hm

end Gomacro.RandSem
