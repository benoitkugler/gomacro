import Gomacro.Lemmas.Enums
/-!
# C10 — Enum detection is exact

Theorems about `Gomacro/Analysis.lean` (`enumNames`, `enumMembers`, `mkEnum`, `isIotaDecision`),
the model of `fetchPkgEnums` / `Enum.setIsIota`, for every list of constant facts.
-/
namespace Gomacro.Analysis
open List Gomacro.IR Gomacro.GoFacts

/-- **enum iff**: a named type is an enum of package `p` exactly when `p` declares at least one
constant of that type that is not opted out. -/
theorem C10_enum_iff (p : PkgFacts) (q : String) :
    q ∈ enumNames p ↔ ∃ c ∈ p.consts, c.typeQ = q ∧ q ≠ "" ∧ optOut c = false := by
  unfold enumNames
  rw [List.mem_eraseDups]
  simp only [List.mem_map, List.mem_filter, Bool.and_eq_true, bne_iff_ne, ne_eq, Bool.not_eq_true']
  constructor
  · rintro ⟨c, ⟨hc, hne, ho⟩, rfl⟩; exact ⟨c, hc, rfl, hne, ho⟩
  · rintro ⟨c, hc, rfl, hne, ho⟩; exact ⟨c, ⟨hc, hne, ho⟩, rfl⟩

theorem mkEnum_members (fb : FactBase) (p : PkgFacts) (q : String) :
    (mkEnum fb p q).members =
      if (mkEnum fb p q).isIota then sortByVal ((enumMembers p q).map toMember) else (enumMembers p q).map toMember := by
  unfold mkEnum; rfl

/-- **members exact**: the members are all the non-opted-out constants of that type, exported or
not, each as often as it is declared, with exact values and comments (up to the order, which the
iota sort may change). -/
theorem C10_members_exact (fb : FactBase) (p : PkgFacts) (q : String) :
    (mkEnum fb p q).members.Perm
      ((p.consts.filter fun c => c.typeQ == q && !optOut c).map toMember) := by
  rw [mkEnum_members]
  split
  · exact sortByVal_perm _
  · exact .refl _

/-- when the enum is not iota-like the declaration (scope) order is kept as is -/
theorem C10_members_order_kept (fb : FactBase) (p : PkgFacts) (q : String)
    (h : (mkEnum fb p q).isIota = false) :
    (mkEnum fb p q).members = (enumMembers p q).map toMember := by
  rw [mkEnum_members, h]
  rfl

theorem exportedVals_perm {a b : List Member} (h : a.Perm b) : (exportedVals a).Perm (exportedVals b) :=
  (h.filter _).map _

theorem exportedVals_sorted {a : List Member} (h : a.Pairwise (fun x y => x.int ≤ y.int)) :
    (exportedVals a).Pairwise (· ≤ ·) := by
  unfold exportedVals
  exact List.pairwise_map.mpr (List.Pairwise.sublist List.filter_sublist h)

theorem exportedVals_nonneg {ms : List Member} (h : ∀ m ∈ ms, 0 ≤ m.int) : ∀ x ∈ exportedVals ms, 0 ≤ x :=
  fun x hx => by
    obtain ⟨m, hm, rfl⟩ := List.mem_map.mp hx
    exact h m (List.mem_filter.mp hm).1

/-- the decision, read as a statement about the exported values -/
theorem isIotaDecision_iff (bk : BKind) (ms : List Member) :
    isIotaDecision bk ms = true ↔ bk = .int ∧ (∀ m ∈ ms, m.isInt = true ∧ 0 ≤ m.int) ∧
      (exportedVals ms).Perm ((List.range (exportedVals ms).length).map (fun (i : Nat) => (i : Int))) := by
  simp only [isIotaDecision, Bool.and_eq_true, beq_iff_eq, List.all_eq_true, decide_eq_true_eq, and_assoc]
  refine and_congr_right fun _ => and_congr_right fun hall => ?_
  rw [perm_range_iff (exportedVals_nonneg fun m hm => (hall m hm).2), ← dedupInts_length_eq]
  exact ⟨fun ⟨hmax, hlen⟩ => ⟨hlen, by omega⟩, fun ⟨hlen, hmax⟩ => ⟨by omega, hlen⟩⟩

/-- **iota sound**: an enum is flagged iota-like only if it is integer-backed and its exported
members, in the reported (sorted) member order, have exactly the values 0, 1, 2, … -/
theorem C10_iota_sound (bk : BKind) (ms : List Member) (h : isIotaDecision bk ms = true) :
    bk = .int ∧
    exportedVals (sortByVal ms) =
      (List.range (exportedVals ms).length).map (fun (i : Nat) => (i : Int)) := by
  obtain ⟨hbk, _, hperm⟩ := (isIotaDecision_iff bk ms).mp h
  -- two sorted lists with the same elements
  exact ⟨hbk, ((exportedVals_perm (sortByVal_perm ms)).trans hperm).eq_of_pairwise
    (fun _ _ _ _ => Int.le_antisymm) (exportedVals_sorted (sortByVal_sorted ms))
    (List.pairwise_map.mpr (List.pairwise_le_range.imp Int.ofNat_le.mpr))⟩

/-- **iota complete**: an integer-backed enum whose members are all non-negative and whose
exported values are 0 … k-1 in some order — in particular every plain iota block — is flagged. -/
theorem C10_iota_complete (ms : List Member) (k : Nat)
    (hall : ∀ m ∈ ms, m.isInt = true ∧ 0 ≤ m.int)
    (hperm : (exportedVals ms).Perm ((List.range k).map (fun (i : Nat) => (i : Int)))) :
    isIotaDecision .int ms = true := by
  obtain rfl : (exportedVals ms).length = k := by simpa using hperm.length_eq
  exact (isIotaDecision_iff .int ms).mpr ⟨rfl, hall, hperm⟩

/-- The defect of the pinned commit, as a theorem: exported values 0, 0, 1 were flagged. -/
theorem isIotaDecisionOld_unsound :
    ∃ ms : List Member, isIotaDecisionOld .int ms = true ∧ exportedVals ms = [0, 0, 1] := by
  refine ⟨[⟨"A", "0", "0", "", true, true, 0, ""⟩, ⟨"B", "0", "0", "", true, true, 0, ""⟩,
           ⟨"C", "1", "1", "", true, true, 1, ""⟩], ?_, ?_⟩ <;> decide +kernel

/-- multi-name constant specs: the comment lookup of any name but the first crashes
(the code as it was at the pinned commit; repaired by a `fix:` commit) -/
theorem constCommentOld_crash_iff (c : ConstFact) :
    (constCommentOutcomeOld c).isCrash = true ↔ c.specIndex ≠ 0 := by
  unfold constCommentOutcomeOld
  split <;> simp_all [Outcome.isCrash]

/-! non-vacuity: a block with an unexported member interleaved -/
example : isIotaDecision .int [⟨"A", "0", "0", "", true, true, 0, ""⟩, ⟨"b", "5", "5", "", false, true, 5, ""⟩,
    ⟨"C", "1", "1", "", true, true, 1, ""⟩] = true := by decide +kernel

end Gomacro.Analysis
