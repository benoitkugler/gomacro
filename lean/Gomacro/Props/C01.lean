import Gomacro.GoIdents
/-!
# C01 — Generated Go boilerplate compiles with its source package (partial)

Type-checking Go is not re-implemented in Lean.  What is proved is the part the generators are
responsible for (identifier derivation and list-shaped fragments); "no ill-typed expression" is
established per input by `go/types` in the loop (correspondence runner C01), labelled as
validation, not proof.
-/
namespace Gomacro.GoIdents
open List Gomacro.IR

/-- **Kind constants of one union are pairwise distinct** (members are distinct names) -/
theorem C01_kind_idents_nodup (union : String) (members : List String) (h : members.Nodup) :
    (unionKindIdents union members).Nodup := by
  unfold unionKindIdents
  refine List.pairwise_map.mpr (h.imp fun {a b} hne e => hne ?_)
  rwa [kindVarName, kindVarName, String.append_assoc, String.append_assoc, String.append_left_inj] at e

/-- a Kind constant never collides with a wrapper type name of the same generation -/
theorem kind_ne_wrapper (m u u' : String) : kindVarName m u ≠ wrapperName u' := by
  unfold kindVarName wrapperName
  intro h
  have := congrArg (fun s => s.toList.getLast?) h
  simp at this

/-- known finding, as a theorem: two unions sharing their first two letters and a member get the
same Kind constant (`CircleShKind` for `Shape` and `Shadow`) -/
theorem kind_collision_across_unions :
    ∃ u₁ u₂ m : String, u₁ ≠ u₂ ∧ kindVarName m u₁ = kindVarName m u₂ :=
  ⟨"Shape", "Shadow", "Circle", by decide +kernel, by decide +kernel⟩

/-- **enum choice list is well-formed**: exactly the exported members, hence no empty element -/
theorem C01_choices_exported (ms : List Member) :
    enumChoices ms = (ms.filter (·.exported)).map (·.name) := rfl

theorem C01_choices_no_hole (ms : List Member) (h : ∀ m ∈ ms, m.name ≠ "") :
    ∀ c ∈ enumChoices ms, c ≠ "" := by
  intro c hc
  unfold enumChoices at hc
  obtain ⟨m, hm, rfl⟩ := List.mem_map.mp hc
  exact h m (List.mem_filter.mp hm).1

/-- the defect of the pinned commit: a hole for every unexported member -/
theorem choicesOld_has_hole : ∃ ms : List Member, (∀ m ∈ ms, m.name ≠ "") ∧ "" ∈ enumChoicesOld ms :=
  ⟨[⟨"A", "0", "0", "", true, true, 0, ""⟩, ⟨"b", "1", "1", "", false, true, 1, ""⟩], by decide +kernel, by decide +kernel⟩

/-- **primary-key accessor is an actual field**, whatever the spelling of `id` -/
theorem C01_pk_accessor (cols : List String) (f : String) (h : pkAccessor cols = some f) :
    f ∈ cols ∧ f.toLower = "id" := by
  unfold pkAccessor at h
  refine ⟨List.mem_of_find?_eq_some h, ?_⟩
  have := List.find?_some h
  simpa using this

/-! non-vacuity -/
example : unionKindIdents "I" ["A", "B"] = ["AIKind", "BIKind"] := by decide +kernel

end Gomacro.GoIdents
