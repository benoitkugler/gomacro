import Gomacro.Lemmas.Decls
import Gomacro.Lemmas.Assoc
import Gomacro.Props.C19
import Gomacro.Facts.Generated
/-!
# C07 — Generation is deterministic

Go randomises map iteration order.  Every `range` over a map in /repo's non-test code is listed
(regenerated from the sources on every run) together with the reason why its visit order cannot
reach an output; each reason is one of the permutation-invariance theorems below, where the
iteration order is an arbitrary permutation of the entries.
-/
namespace Gomacro.MapRange
open List Gomacro.Decls

/-- **sort by a key that is unique** (`Struct.setImplements`: unions sorted by qualified name) -/
theorem sortBy_key_perm_invariant {α} (key : α → String) (l₁ l₂ : List α) (h : l₁.Perm l₂)
    (hinj : ∀ a ∈ l₁, ∀ b ∈ l₁, key a = key b → a = b) :
    l₁.mergeSort (fun a b => decide (key a ≤ key b)) = l₂.mergeSort (fun a b => decide (key a ≤ key b)) :=
  eq_of_perm_of_sorted_key
    ((mergeSort_perm l₁ _).trans (h.trans (mergeSort_perm l₂ _).symm))
    (fun a ha b hb => hinj a (mem_mergeSort.mp ha) b (mem_mergeSort.mp hb))
    (pairwise_mergeSort_key key l₁) (pairwise_mergeSort_key key l₂)

/-- **sort after range** (`OutputFiles`, dart imports, config file list, `Cache.Imports` after the
repair): sorting strings erases the visit order. -/
theorem sort_perm_invariant (l₁ l₂ : List String) (h : l₁.Perm l₂) :
    l₁.mergeSort (fun a b => decide (a ≤ b)) = l₂.mergeSort (fun a b => decide (a ≤ b)) :=
  sortBy_key_perm_invariant id l₁ l₂ h fun _ _ _ _ e => e

/-- a Go map as an association list: later insertions overwrite -/
def insert {β} (m : List (String × β)) (kv : String × β) : List (String × β) :=
  kv :: m.filter (fun e => e.1 != kv.1)

def build {β} (entries : List (String × β)) : List (String × β) := entries.foldl insert []

theorem lookup_insert {β} (m : List (String × β)) (kv : String × β) (k : String) :
    (insert m kv).lookup k = if k = kv.1 then some kv.2 else m.lookup k := by
  unfold insert
  split
  next h => rw [h, lookup_cons_self]
  next h => rw [lookup_cons_ne h, lookup_filter_ne m h]

theorem lookup_foldl_insert {β} (es m : List (String × β)) (k : String) :
    (es.foldl insert m).lookup k = (es.reverse.lookup k).or (m.lookup k) := by
  induction es generalizing m with
  | nil => simp
  | cons e es ih =>
    simp only [foldl_cons, ih, lookup_insert, reverse_cons, lookup_append, Option.or_assoc]
    congr 1
    obtain ⟨k', v'⟩ := e
    by_cases h : k = k' <;> simp [lookup_cons_ne, h]

theorem lookup_build {β} (es : List (String × β)) (k : String) :
    (build es).lookup k = es.reverse.lookup k := by
  simp only [build, lookup_foldl_insert, lookup_nil, Option.or_none]

theorem lookup_build_mem {β} (entries : List (String × β)) (hnd : (entries.map (·.1)).Nodup)
    (k : String) (v : β) : (build entries).lookup k = some v ↔ (k, v) ∈ entries := by
  rw [lookup_build, lookup_eq_some_iff_mem (((reverse_perm _).map _).symm.nodup hnd), mem_reverse]

/-- **merge into a map** (`fetchEnumsAndUnions`, `NewLinker`, `uniq` sets): with distinct keys the
resulting map does not depend on the insertion order. -/
theorem build_perm_invariant {β} (e₁ e₂ : List (String × β)) (h : e₁.Perm e₂)
    (hnd : (e₁.map (·.1)).Nodup) (k : String) : (build e₁).lookup k = (build e₂).lookup k :=
  Option.ext fun v => by
    rw [lookup_build_mem e₁ hnd, lookup_build_mem e₂ ((h.map _).nodup hnd), h.mem_iff]

/-- **search for the unique match** (`findPackage`, `selectPackage`, `selectFileByPos`: the package
with a given path is unique in an import graph): the element found does not depend on the order. -/
theorem find_unique_perm_invariant {α} (p : α → Bool) (l₁ l₂ : List α) (h : l₁.Perm l₂)
    (huniq : ∀ a ∈ l₁, ∀ b ∈ l₁, p a = true → p b = true → a = b) :
    l₁.find? p = l₂.find? p := by
  cases h1 : l₁.find? p with
  | none => exact (find?_eq_none.mpr fun x hx => find?_eq_none.mp h1 x (h.symm.subset hx)).symm
  | some a =>
    have ha := mem_of_find?_eq_some h1
    have hpa := find?_some h1
    obtain ⟨b, h2⟩ := Option.isSome_iff_exists.mp (find?_isSome.mpr ⟨a, h.subset ha, hpa⟩)
    rw [h2, huniq a ha b (h.symm.subset (mem_of_find?_eq_some h2)) hpa (find?_some h2)]

/-- **per-entry update** (`setIsIota` on every enum, `setImplements` / `flattenEmbedded` on every
struct, one output file per map entry): the resulting collection is the same up to the order in
which it is listed, and is looked up by key afterwards. -/
theorem map_perm {α β} (f : α → β) (l₁ l₂ : List α) (h : l₁.Perm l₂) : (l₁.map f).Perm (l₂.map f) :=
  h.map f

/-- **distinct sorted set** (`Cache.Imports` after the repair: set of package paths, then sorted) -/
theorem sortedIds_perm_invariant (l₁ l₂ : List String) (h : ∀ a, a ∈ l₁ ↔ a ∈ l₂) :
    sortedIds l₁ = sortedIds l₂ :=
  strict_sorted_ext (pairwise_sortedIds l₁) (pairwise_sortedIds l₂)
    (fun a => by rw [mem_sortedIds, mem_sortedIds]; exact h a)

/-- the final assembly of every target is order independent (C19) -/
theorem assembly_perm_invariant {a b : List Decl} {o₁ o₂ : String} (hc : Consistent a) (hab : a.Perm b)
    (h₁ : WriteResult a o₁) (h₂ : WriteResult b o₂) : o₁ = o₂ := C19_perm hc hab h₁ h₂

/-- The defect of the pinned commit: a list built by ranging over a map and returned unsorted is
*any* permutation of the entries — two of them differ as soon as there are two entries. -/
theorem unsorted_range_not_deterministic : ∃ l₁ l₂ : List String, l₁.Perm l₂ ∧ l₁ ≠ l₂ :=
  ⟨["\"a\"", "\"b\""], ["\"b\"", "\"a\""], List.Perm.swap _ _ _, by decide⟩

end Gomacro.MapRange

namespace Gomacro.Facts
/-! ## Regenerated inventory of map ranges

(file, function, operand, fingerprint of the function's source) ↦ discharge. -/

inductive Discharge
  | sortAfter          -- sort_perm_invariant / sortedIds_perm_invariant
  | sortByUniqueKey    -- sortBy_key_perm_invariant
  | mergeIntoMap       -- build_perm_invariant
  | findUnique         -- find_unique_perm_invariant
  | perEntry           -- map_perm (entries updated independently, read back by key)
  | fileSet            -- map_perm: one output file per entry, identified by its name
deriving DecidableEq, Repr

def expectedRanges : List (MapRange × Discharge) := [
  (⟨"analysis/analysis.go", "Analysis.populateTypes", "an.Types", "fc4d06fbaa8f"⟩, .perEntry),
  (⟨"analysis/analysis.go", "Linker.OutputFiles", "lk.typeToOut", "e7d6ef368f0d"⟩, .mergeIntoMap),
  (⟨"analysis/analysis.go", "Linker.OutputFiles", "uniq", "e7d6ef368f0d"⟩, .sortAfter),
  (⟨"analysis/analysis.go", "NewLinker", "src.Types", "0f72046126c2"⟩, .mergeIntoMap),
  (⟨"analysis/analysis.go", "fetchEnumsAndUnions", "fetchPkgEnums(p)", "861a43170c45"⟩, .mergeIntoMap),
  (⟨"analysis/analysis.go", "fetchEnumsAndUnions", "fetchPkgUnions(p)", "861a43170c45"⟩, .mergeIntoMap),
  (⟨"analysis/analysis.go", "fetchEnumsAndUnions", "p.Imports", "861a43170c45"⟩, .mergeIntoMap),
  (⟨"analysis/compounds.go", "PkgSelector.findPackage", "pa.Imports", "4bcaad531595"⟩, .findUnique),
  (⟨"analysis/compounds.go", "Struct.setImplements", "unions", "ee80f2666446"⟩, .sortByUniqueKey),
  (⟨"analysis/enums.go", "fetchPkgEnums", "out", "6dff684d2828"⟩, .perEntry),
  (⟨"analysis/httpapi/parse.go", "selectFileByPos", "pa.Imports", "652356e1c736"⟩, .findUnique),
  (⟨"analysis/httpapi/parse.go", "selectPackage", "pa.Imports", "a77efa329353"⟩, .findUnique),
  (⟨"cmd/gomacro.go", "Config.run", "conf", "fac6c29f188e"⟩, .sortAfter),
  (⟨"generator/dart/dart.go", "Generate", "buf.files", "9344609a3898"⟩, .fileSet),
  (⟨"generator/dart/dart.go", "Generate", "file.imports", "9344609a3898"⟩, .sortAfter),
  (⟨"generator/generator.go", "Cache.Imports", "c", "f6de6331570e"⟩, .mergeIntoMap),
  (⟨"generator/generator.go", "Cache.Imports", "unique", "f6de6331570e"⟩, .sortAfter)
]

/-- every map range found in the current sources is one with a discharge: same file, function and
operand. (The fingerprint of the function's source is regenerated for the record but is no part
of the match: a rewrite inside one of these functions that keeps its ranges keeps the obligation —
what it computes is then checked by the repeated-run comparison —, a range over another operand or
in another function breaks it.) -/
def rangesDischarged : Bool :=
  mapRanges.all fun r => expectedRanges.any fun e =>
    e.1.file == r.file && e.1.func == r.func && e.1.operand == r.operand

/-- **regenerated obligation** -/
theorem C07_sites_discharged : rangesDischarged = true := by decide +kernel

/-! ## Regenerated inventory of orderings on token positions

`token.Pos` values of two files of a package are ordered by the schedule of the loader's parser
goroutines: only comparisons inside one file (or containment of a given position in a node / file)
are functions of the sources. -/

inductive PosDischarge
  | containment   -- is a given position inside this node / file: true of exactly one file whatever the bases
  | sameFile      -- both positions belong to the analysed source file (objects filtered by file name just before)
deriving DecidableEq, Repr

/-- the functions that compare token positions, with what they compare. The discharge is per
function (not per expression): a rewrite of the comparison inside one of them keeps the obligation,
a position comparison in any other function breaks it. -/
def expectedPosOrders : List (String × String × PosDischarge) := [
  ("analysis/analysis.go", "NewAnalysisFromFile", .sameFile),   -- objs[i].Pos() < objs[j].Pos(), objects of the one analysed file
  ("analysis/analysis.go", "nodeAtFile", .containment),          -- n.Pos() <= pos && pos < n.End(), nodes of the file given by the caller
  ("analysis/httpapi/parse.go", "resolveFunc", .containment),    -- n.Pos() <= pos && pos < n.End()
  ("analysis/httpapi/parse.go", "selectFileByPos", .containment) -- file.Pos() <= pos && pos <= file.End()
]

def posOrdersDischarged : Bool :=
  posOrders.all fun r => expectedPosOrders.any fun e => e.1 == r.file && e.2.1 == r.func

/-- **regenerated obligation**: every ordering comparison on token positions in the current sources
is one of the file-local ones -/
theorem C07_pos_orders_discharged : posOrdersDischarged = true := by decide +kernel

/-! ## Regenerated inventory of writes to package-level state

Output must be a function of the sources, not of what the process generated before: no function
writes a package-level variable (a memo keyed by package path would outlive the `types.Named`
pointers of the load it was filled from). -/

def expectedGlobalWrites : List GlobalWrite := []

def globalWritesDischarged : Bool := globalWrites.all fun r => expectedGlobalWrites.contains r

/-- **regenerated obligation**: no write to package-level state from a function body -/
theorem C07_no_state_between_runs : globalWritesDischarged = true := by decide

end Gomacro.Facts
