import Gomacro.HttpApi
/-!
# C13 — Every registered HTTP route is extracted with its contract

The supported idiom is given as a *specification syntax* (`Item`, `StmtS`, `RetS`, `Reg`) with a
rendering into syntax trees; the theorems say that the extractor model inverts the rendering:
for every handler written in the idiom — any items, in any order, grouped in assignments in any
way, separated by arbitrary inert statements — the extracted contract is the declared one, and for
every list of registrations the endpoint list has one entry per registration kept by the prefix
filter, in source order, with the folded URL and the verb.
The correspondence runner evaluates the same model on the syntax trees of synthesised route files
and compares it with the real `ParseEcho`, and both with the synthesiser's route table.
-/
namespace Gomacro.HttpApi
open List

/-! ### specification syntax -/

inductive Item
  | bind (ty : String) (byAddr : Bool)
  | query (name : String)
  | queryBool (name : String)
  | queryInt64 (name : String)
  | queryInt (name ty : String)
  | formValue (name : String)
  | formFile (name : String)
  | formJSON (name ty : String)
  deriving DecidableEq, Repr

/-- names and types are not empty (an empty name is ignored by the extractor) -/
def Item.wf : Item → Bool
  | .bind ty _ => ty ≠ ""
  | .query n | .queryBool n | .queryInt64 n | .formValue n | .formFile n => n ≠ ""
  | .queryInt n ty | .formJSON n ty => n ≠ "" && ty ≠ ""

def strLit (s : String) : Node := .mk { cst := some s } []
def identN (n ty : String) : Node := .mk { kind := .ident, name := n, ty := ty } []
def selN (x : Node) (n : String) : Node := .mk { kind := .sel, name := n } [x, .mk { kind := .ident, name := n } []]
def callN (fn : Node) (args : List Node) (ty ty0 : String) : Node := .mk { kind := .call, ty := ty, ty0 := ty0 } (fn :: args)

/-- the call expression of an item; `x` (the echo context), `r` (the receiver of the typed
helpers) and `v` (the bound variable's name) are arbitrary -/
def renderItem (x r : Node) (v : String) : Item → Node
  | .bind ty true => callN (selN x "Bind") [.mk { kind := .addr, ty := "*" ++ ty, elem := ty } [identN v ty]] "error" ""
  | .bind ty false => callN (selN x "Bind") [.mk { kind := .ident, name := v, ty := "*" ++ ty, elem := ty } []] "error" ""
  | .query n => callN (selN x "QueryParam") [strLit n] "string" ""
  | .queryBool n => callN (selN r "QueryParamBool") [x, strLit n] "bool" ""
  | .queryInt64 n => callN (selN r "QueryParamInt64") [x, strLit n] "int64" ""
  | .queryInt n ty => callN (.mk { kind := .index } [identN "QueryParamInt" "", identN ty ""]) [x, strLit n] ("(" ++ ty ++ ", error)") ty
  | .formValue n => callN (selN x "FormValue") [strLit n] "string" ""
  | .formFile n => callN (selN x "FormFile") [strLit n] "(*mime/multipart.FileHeader, error)" "*mime/multipart.FileHeader"
  | .formJSON n ty => callN (identN "FormValueJSON" "") [x, strLit n, .mk { kind := .addr, ty := "*" ++ ty, elem := ty } [identN v ty]] "error" ""

/-- what an item declares -/
def applyItem : Item → Contract → Contract
  | .bind ty _, c => { c with input := ty }
  | .query n, c => { c with query := c.query ++ [(n, "string")] }
  | .queryBool n, c => { c with query := c.query ++ [(n, "bool")] }
  | .queryInt64 n, c => { c with query := c.query ++ [(n, "int64")] }
  | .queryInt n ty, c => { c with query := c.query ++ [(n, ty)] }
  | .formValue n, c => { c with formValues := c.formValues ++ [n] }
  | .formFile n, c => { c with formFile := n }
  | .formJSON n ty, c => { c with formJSON := some (n, ty) }

theorem parseAssign_render (x r : Node) (v : String) (it : Item) (c : Contract) (h : it.wf = true) :
    parseAssign (renderItem x r v it) c = applyItem it c := by
  -- The probes are evaluated on the rendered call first, by rewriting. Were `addQuery` unfolded in the same
  -- call, the kernel would re-evaluate the probes itself, deciding every comparison of names by `String.decEq`.
  rcases it with ⟨ty, _ | _⟩ | n | n | n | ⟨n, ty⟩ | n | n | ⟨n, ty⟩ <;>
    simp [parseAssign, renderItem, bindCall, callWithString, formValueJSON, calleeName,
      callN, selN, identN, strLit, Node.kind, Node.a, Node.children] <;>
    simp_all [Item.wf, addQuery, applyItem]

def applyItems (its : List Item) (c : Contract) : Contract := its.foldl (fun c it => applyItem it c) c

theorem parseRhs_render (x r : Node) (v : String) (its : List Item) (c : Contract) (h : ∀ it ∈ its, it.wf = true) :
    parseRhs (its.map (renderItem x r v)) c = applyItems its c := by
  rw [parseRhs, List.foldl_map]
  exact List.foldl_rel (r := Eq) rfl fun it hi c _ hc => hc ▸ parseAssign_render x r v it c (h it hi)

/-! ### inert syntax: statements the extractor looks through without effect -/

mutual
def inert : Node → Bool
  | .mk a cs =>
    if a.kind = .ret then (match cs with | [r] => r.kind ≠ .call | _ => false)
    else if a.kind = .assign then (cs.drop a.nlhs).all (fun r => r.kind ≠ .call)
    else inertList cs
def inertList : List Node → Bool
  | [] => true
  | n :: ns => inert n && inertList ns
end

theorem parseAssign_noncall (rh : Node) (c : Contract) (h : rh.kind ≠ .call) : parseAssign rh c = c := by
  simp [parseAssign, bindCall, callWithString, formValueJSON, addQuery, h]

theorem parseRhs_noncall (rhs : List Node) (c : Contract) (h : rhs.all (fun r => r.kind ≠ .call) = true) :
    parseRhs rhs c = c := by
  induction rhs generalizing c with
  | nil => rfl
  | cons r rs ih =>
    simp only [List.all_cons, Bool.and_eq_true, decide_eq_true_eq] at h
    simp only [parseRhs, List.foldl_cons]
    rw [parseAssign_noncall r c h.1]
    exact ih c h.2

mutual
theorem body_inert : ∀ (n : Node) (c : Contract), inert n = true → body n c = c
  | .mk a cs, c, h => by
    unfold inert at h
    unfold body
    split at h
    · rw [if_pos ‹_›]
      match cs, h with
      | [r], h => simp [parseReturn, show r.kind ≠ .call by simpa using h]
    · rw [if_neg ‹_›]
      split at h
      · rw [if_pos ‹_›]; exact parseRhs_noncall _ c h
      · rw [if_neg ‹_›]; exact bodyList_inert cs c h
theorem bodyList_inert : ∀ (ns : List Node) (c : Contract), inertList ns = true → bodyList ns c = c
  | [], c, _ => rfl
  | n :: ns, c, h => by
    rw [inertList, Bool.and_eq_true] at h
    rw [bodyList, body_inert n c h.1]
    exact bodyList_inert ns c h.2
end

theorem bodyList_eq_foldl (ns : List Node) (c : Contract) : bodyList ns c = ns.foldl (fun c n => body n c) c := by
  induction ns generalizing c with
  | nil => rfl
  | cons n ns ih => exact ih _

theorem bodyList_append (a b : List Node) (c : Contract) : bodyList (a ++ b) c = bodyList b (bodyList a c) := by
  simp only [bodyList_eq_foldl, List.foldl_append]

/-! ### statements and handlers of the idiom -/

/-- a statement: arbitrary inert syntax; an assignment whose right-hand sides are item calls
(`a, b := c.QueryParam("x"), c.QueryParam("y")`); or the guarded form
`if err := c.Bind(&in); err != nil { …inert… }` -/
inductive StmtS
  | junk (n : Node)
  | assign (lhs : List Node) (items : List Item)
  | guarded (lhs : List Node) (items : List Item) (cond : Node) (thenBody : List Node)

def StmtS.items : StmtS → List Item
  | .junk _ => []
  | .assign _ its => its
  | .guarded _ its _ _ => its

def StmtS.wf : StmtS → Bool
  | .junk n => inert n
  | .assign _ its => its.all Item.wf
  | .guarded _ its cond tb => its.all Item.wf && inert cond && inertList tb

def assignN (x r : Node) (v : String) (lhs : List Node) (its : List Item) : Node :=
  .mk { kind := .assign, nlhs := lhs.length } (lhs ++ its.map (renderItem x r v))

def renderStmt (x r : Node) (v : String) : StmtS → Node
  | .junk n => n
  | .assign lhs its => assignN x r v lhs its
  | .guarded lhs its cond tb => .mk {} [assignN x r v lhs its, cond, .mk {} tb]

theorem body_assignN (x r : Node) (v : String) (lhs : List Node) (its : List Item) (c : Contract)
    (h : its.all Item.wf = true) : body (assignN x r v lhs its) c = applyItems its c := by
  unfold assignN body
  simp only [reduceCtorEq, if_false, if_true, List.drop_left]
  exact parseRhs_render x r v its c (by simpa using h)

theorem body_renderStmt (x r : Node) (v : String) (s : StmtS) (c : Contract) (h : s.wf = true) :
    body (renderStmt x r v s) c = applyItems s.items c := by
  cases s with
  | junk n => exact body_inert n c h
  | assign lhs its => exact body_assignN x r v lhs its c h
  | guarded lhs its cond tb =>
    simp only [StmtS.wf, Bool.and_eq_true] at h
    simp only [renderStmt, StmtS.items]
    unfold body
    simp only [reduceCtorEq, if_false, bodyList]
    rw [body_assignN x r v lhs its c h.1.1, body_inert cond _ h.1.2]
    have : inert (.mk {} tb) = true := by unfold inert; simpa using h.2
    exact body_inert _ _ this

theorem bodyList_stmts (x r : Node) (v : String) (ss : List StmtS) (c : Contract) (h : ∀ s ∈ ss, s.wf = true) :
    bodyList (ss.map (renderStmt x r v)) c = applyItems (ss.flatMap StmtS.items) c := by
  rw [bodyList_eq_foldl, List.foldl_map, applyItems, List.foldl_flatMap]
  exact List.foldl_rel (r := Eq) rfl fun s hs c _ hc => hc ▸ body_renderStmt x r v s c (h s hs)

/-- the final return statement -/
inductive RetS
  /-- `return c.JSON(200, out)` / `JSONPretty`, `out` a variable or a composite literal of type `ty` -/
  | json (pretty composite : Bool) (ty : String)
  /-- `return c.Blob(200, name, bytes)` -/
  | blob (ty : String)
  /-- `return nil` / `return err` -/
  | plain (e : Node)

def RetS.wf : RetS → Bool
  | .json _ _ ty => ty ≠ ""
  | .blob ty => ty ≠ ""
  | .plain e => e.kind ≠ .call

def renderRet (x code : Node) (v : String) : RetS → Node
  | .json p comp ty =>
    .mk { kind := .ret } [callN (selN x (if p then "JSONPretty" else "JSON"))
      ([code, if comp then .mk { kind := .composite, ty := ty } [] else identN v ty] ++ if p then [strLit " "] else []) "error" ""]
  | .blob ty => .mk { kind := .ret } [callN (selN x "Blob") [code, strLit "", identN v ty] "error" ""]
  | .plain e => .mk { kind := .ret } [e]

def applyRet : RetS → Contract → Contract
  | .json _ _ ty, c => { c with ret := ty }
  | .blob ty, c => { c with ret := ty, blob := true }
  | .plain _, c => c

theorem body_renderRet (x code : Node) (v : String) (r : RetS) (c : Contract) (h : r.wf = true) :
    body (renderRet x code v r) c = applyRet r c := by
  cases r with
  | json p comp ty =>
    have ht : ty ≠ "" := by simpa [RetS.wf] using h
    cases p <;> cases comp <;>
      simp [renderRet, body, parseReturn, applyRet, callN, selN, identN, Node.kind, Node.a, Node.children, ht]
  | blob ty =>
    have ht : ty ≠ "" := by simpa [RetS.wf] using h
    simp [renderRet, body, parseReturn, applyRet, callN, selN, identN, Node.kind, Node.a, Node.children, ht]
  | plain e =>
    have he : e.kind ≠ .call := by simpa [RetS.wf] using h
    simp [renderRet, body, parseReturn, applyRet, he]

/-- a handler of the idiom: statements, then the return -/
structure HandlerS where
  stmts : List StmtS
  ret : RetS

def HandlerS.wf (hs : HandlerS) : Bool := hs.stmts.all StmtS.wf && hs.ret.wf
def HandlerS.items (hs : HandlerS) : List Item := hs.stmts.flatMap StmtS.items

def renderHandler (x r code : Node) (v : String) (hs : HandlerS) : Node :=
  .mk {} (hs.stmts.map (renderStmt x r v) ++ [renderRet x code v hs.ret])

theorem contract_of_render (x r code : Node) (v : String) (hs : HandlerS) (c : Contract) (h : hs.wf = true) :
    body (renderHandler x r code v hs) c = applyRet hs.ret (applyItems hs.items c) := by
  simp only [HandlerS.wf, Bool.and_eq_true, List.all_eq_true] at h
  unfold renderHandler body
  rw [if_neg (by decide), if_neg (by decide), bodyList_append, bodyList_stmts x r v hs.stmts _ h.1]
  exact body_renderRet x code v hs.ret _ h.2

/-- **C13 (contract)**: the contract extracted from a handler of the idiom is the declared one -/
theorem C13_contract (x r code : Node) (v name : String) (hs : HandlerS) (h : hs.wf = true) :
    body (renderHandler x r code v hs) { name := name } = applyRet hs.ret (applyItems hs.items { name := name }) :=
  contract_of_render x r code v hs _ h

/-! ### the declared contract, field by field -/

def Item.queryOf : Item → Option (String × String)
  | .query n => some (n, "string")
  | .queryBool n => some (n, "bool")
  | .queryInt64 n => some (n, "int64")
  | .queryInt n ty => some (n, ty)
  | _ => none
def Item.formValueOf : Item → Option String | .formValue n => some n | _ => none
def Item.bindOf : Item → Option String | .bind ty _ => some ty | _ => none
def Item.fileOf : Item → Option String | .formFile n => some n | _ => none
def Item.jsonOf : Item → Option (String × String) | .formJSON n ty => some (n, ty) | _ => none

/-- the declared contract in closed form: lists in source order, the last one wins elsewhere -/
theorem applyItems_eq (its : List Item) (c : Contract) :
    applyItems its c = { c with
      input := ((its.filterMap Item.bindOf).getLast?).getD c.input
      query := c.query ++ its.filterMap Item.queryOf
      formValues := c.formValues ++ its.filterMap Item.formValueOf
      formFile := ((its.filterMap Item.fileOf).getLast?).getD c.formFile
      formJSON := ((its.filterMap Item.jsonOf).getLast?).or c.formJSON } := by
  induction its generalizing c with
  | nil => simp [applyItems]
  | cons it its ih =>
    rw [applyItems, List.foldl_cons, ← applyItems, ih]
    cases it <;>
      simp only [applyItem, Item.bindOf, Item.queryOf, Item.formValueOf, Item.fileOf, Item.jsonOf, List.getLast?_cons,
        List.filterMap_cons, Option.getD_some, List.append_assoc, List.cons_append, List.nil_append]
    cases (filterMap Item.jsonOf its).getLast? <;> rfl

/-- **query parameters**: exactly the declared ones, in source order, with their types -/
theorem C13_query (its : List Item) (c : Contract) :
    (applyItems its c).query = c.query ++ its.filterMap Item.queryOf := by
  rw [applyItems_eq]

/-- **form values**: exactly the declared ones, in source order -/
theorem C13_form_values (its : List Item) (c : Contract) :
    (applyItems its c).formValues = c.formValues ++ its.filterMap Item.formValueOf := by
  rw [applyItems_eq]

/-- **bound input**: the type of the (last) bound variable; none when nothing is bound -/
theorem C13_input (its : List Item) (c : Contract) :
    (applyItems its c).input = ((its.filterMap Item.bindOf).getLast?).getD c.input := by
  rw [applyItems_eq]

theorem C13_form_file (its : List Item) (c : Contract) :
    (applyItems its c).formFile = ((its.filterMap Item.fileOf).getLast?).getD c.formFile := by
  rw [applyItems_eq]

theorem C13_form_json (its : List Item) (c : Contract) :
    (applyItems its c).formJSON = ((its.filterMap Item.jsonOf).getLast?).or c.formJSON := by
  rw [applyItems_eq]

/-- items never raise the crash flag, never touch the name, the return type or the blob flag -/
theorem C13_items_frame (its : List Item) (c : Contract) :
    (applyItems its c).crashed = c.crashed ∧ (applyItems its c).name = c.name ∧
    (applyItems its c).ret = c.ret ∧ (applyItems its c).blob = c.blob := by
  rw [applyItems_eq]
  exact ⟨rfl, rfl, rfl, rfl⟩

/-- **no crash**: the extractor does not panic on a handler of the idiom -/
theorem C13_no_crash (x r code : Node) (v name : String) (hs : HandlerS) (h : hs.wf = true) :
    (body (renderHandler x r code v hs) { name := name }).crashed = false := by
  rw [C13_contract x r code v name hs h]
  cases hr : hs.ret <;> simp [applyRet, (C13_items_frame hs.items { name := name }).1]

/-! ### handler resolution -/

theorem C13_resolve_method (fs : Funcs) (p t m : String) (xa : Attr) (b : Node) (hk : xa.kind = .ident)
    (ho : xa.obj = .var p t) (hl : fs.lookup (p, t, m) = some b) :
    resolveHandler fs (selN (.mk xa []) m) = some (b, m) := by
  simp [resolveHandler, selN, Node.kind, Node.a, Node.children, hk, ho, hl]

theorem C13_resolve_imported (fs : Funcs) (p m : String) (xa : Attr) (b : Node) (hk : xa.kind = .ident)
    (ho : xa.obj = .pkgName p) (hl : fs.lookup (p, "", m) = some b) :
    resolveHandler fs (selN (.mk xa []) m) = some (b, m) := by
  simp [resolveHandler, selN, Node.kind, Node.a, Node.children, hk, ho, hl]

theorem C13_resolve_func (fs : Funcs) (p m : String) (a : Attr) (b : Node) (hk : a.kind = .ident)
    (ho : a.obj = .func p m) (hl : fs.lookup (p, "", m) = some b) :
    resolveHandler fs (.mk a []) = some (b, m) := by
  simp [resolveHandler, Node.kind, Node.a, hk, ho, hl]

theorem C13_resolve_literal (fs : Funcs) (a : Attr) (sig b : Node) (hk : a.kind = .funcLit) :
    resolveHandler fs (.mk a [sig, b]) = some (b, "Anonymous" ++ toString a.pos) := by
  simp [resolveHandler, Node.kind, Node.a, Node.children, hk]

/-! ### file level -/

/-- a registration `e.VERB(url, handler)`; `res` is what the handler resolves to -/
structure Reg where
  verb : String
  url : String
  urlNode : Node
  handler : Node
  recv : Node
  extra : List Node := []

def Reg.wf (fs : Funcs) (r : Reg) : Prop :=
  isVerb r.verb = true ∧ r.urlNode.a.cst = some r.url ∧ (resolveHandler fs r.handler).isSome

/-- the expression statement of a registration -/
def renderReg (r : Reg) : Node :=
  .mk {} [.mk { kind := .call } (selN r.recv r.verb :: r.urlNode :: r.handler :: r.extra)]

def Reg.kept (pre : String) (r : Reg) : Bool := pre = "" || r.url.startsWith pre

def Reg.endpoint (fs : Funcs) (r : Reg) : Endpoint :=
  match resolveHandler fs r.handler with
  | some (b, name) => ⟨r.url, r.verb, body b { name := name }⟩
  | none => ⟨r.url, r.verb, { name := "" }⟩

theorem verbCall_some (a : Attr) (fn url h : Node) (extra : List Node) (ha : a.kind = .call)
    (hf : fn.kind = .sel) (hv : isVerb fn.a.name = true) :
    verbCall a (fn :: url :: h :: extra) = some (fn.a.name, url, h) := by
  simp [verbCall, ha, hf, hv]

theorem scan_reg (fs : Funcs) (pre : String) (r : Reg) (acc : Acc) (h : r.wf fs) :
    (scan fs pre (renderReg r) acc).out = acc.out ++ (if r.kept pre then [r.endpoint fs] else []) := by
  obtain ⟨hv, hu, hr⟩ := h
  have h0 : verbCall {} [Node.mk { kind := .call } (selN r.recv r.verb :: r.urlNode :: r.handler :: r.extra)] = none := by
    simp [verbCall]
  have h1 : verbCall { kind := .call } (selN r.recv r.verb :: r.urlNode :: r.handler :: r.extra) =
      some (r.verb, r.urlNode, r.handler) := verbCall_some _ _ _ _ _ rfl rfl hv
  unfold renderReg scan
  simp only [h0, scanList]
  unfold scan
  simp only [h1, register, hu]
  obtain ⟨⟨b, name⟩, hh⟩ := Option.isSome_iff_exists.mp hr
  simp only [Reg.kept, Reg.endpoint, hh]
  by_cases hk : pre = ""
  · simp [hk]
  · cases r.url.startsWith pre <;> simp [hk]

/-- **C13 (routes)**: one endpoint per registration kept by the prefix filter, in source order,
with the verb and the constant-folded URL; inert statements in between change nothing -/
theorem C13_routes (fs : Funcs) (pre : String) (regs : List Reg) (acc : Acc) (h : ∀ r ∈ regs, r.wf fs) :
    (scanList fs pre (regs.map renderReg) acc).out = acc.out ++ (regs.filter (Reg.kept pre)).map (Reg.endpoint fs) := by
  induction regs generalizing acc with
  | nil => simp [scanList]
  | cons r rs ih =>
    simp only [List.map_cons, scanList]
    rw [ih _ (fun t ht => h t (by simp [ht])), scan_reg fs pre r acc (h r (by simp))]
    by_cases hk : r.kept pre = true
    · simp [hk]
    · simp [hk]

/-- **prefix filter**: exactly the routes whose URL has the prefix -/
theorem C13_prefix (pre : String) (r : Reg) (hp : pre ≠ "") : r.kept pre = r.url.startsWith pre := by
  simp [Reg.kept, hp]

/-- non-vacuity: a concrete handler of the idiom and its contract -/
example :
    body (renderHandler (identN "c" "echo.Context") (identN "ct" "controller") (strLit "") "v"
      { stmts := [.guarded [identN "err" "error"] [.bind "In" true] (.mk {} []) [.mk { kind := .ret } [identN "err" "error"]],
                  .assign [identN "a" "", identN "b" ""] [.query "x", .queryInt "id" "IdDossier"],
                  .junk (.mk {} [identN "fmt" ""]),
                  .assign [identN "f" ""] [.formFile "file"]],
        ret := .json false false "Out" }) { name := "h" }
    = { name := "h", input := "In", ret := "Out", query := [("x", "string"), ("id", "IdDossier")], formFile := "file" } := by
  rw [C13_contract _ _ _ _ _ _ (by decide)]
  rfl

end Gomacro.HttpApi
