import Gomacro.Lemmas.Fragment
import Gomacro.Lemmas.Eventually
import Gomacro.Props.C03
/-!
# C03, end to end

`C03_end_to_end`: for a program in the fragment (`EndToEnd.Fragment`: the complement of the recorded
findings, decidable and evaluated per program by the runner), every Go value of every type over
the program's declarations is written by `encoding/json` (model `GoJson.encode`, with the generated
wrappers) as a document that inhabits (`TsGen.inhabits`) the TypeScript type the generator refers
to. Both semantics are fuel-indexed; the statement is "for every sufficiently large fuel"
(`Eventually`). The proof is an induction on the fuel of the encoder, over both kinds of position
(`E2E.pos`), by cases on the type.
-/
namespace Gomacro.E2E
open Gomacro.IR Gomacro.GoJson Gomacro.TsGen

attribute [local irreducible] Tags.jsonName  -- see `Lemmas/Encode.lean`

mutual
theorem tsBeq_eq : ∀ (a b : TsType), tsBeq a b = true → a = b
  | .str, b, h => by cases b <;> simp_all [tsBeq]
  | .num, b, h => by cases b <;> simp_all [tsBeq]
  | .bool, b, h => by cases b <;> simp_all [tsBeq]
  | .null, b, h => by cases b <;> simp_all [tsBeq]
  | .unknown, b, h => by cases b <;> simp_all [tsBeq]
  | .never, b, h => by cases b <;> simp_all [tsBeq]
  | .litStr s, b, h => by cases b <;> simp_all [tsBeq]
  | .litNum s, b, h => by cases b <;> simp_all [tsBeq]
  | .litBool s, b, h => by cases b <;> simp_all [tsBeq]
  | .ref s, b, h => by cases b <;> simp_all [tsBeq]
  | .arr a, b, h => by
    cases b <;> simp [tsBeq] at h
    rw [tsBeq_eq a _ h]
  | .tuple a, b, h => by
    cases b <;> simp [tsBeq] at h
    rw [tsBeqList_eq a _ h]
  | .union a, b, h => by
    cases b <;> simp [tsBeq] at h
    rw [tsBeqList_eq a _ h]
  | .record k v, b, h => by
    cases b <;> simp [tsBeq] at h
    rw [tsBeq_eq k _ h.1, tsBeq_eq v _ h.2]
  | .obj a, b, h => by
    cases b <;> simp [tsBeq] at h
    rw [tsBeqFields_eq a _ h]
  | .brand a s, b, h => by
    cases b <;> simp [tsBeq] at h
    rw [tsBeq_eq a _ h.1, h.2]
theorem tsBeqList_eq : ∀ (a b : List TsType), tsBeqList a b = true → a = b
  | [], b, h => by cases b <;> simp_all [tsBeqList]
  | x :: xs, b, h => by
    cases b with
    | nil => simp [tsBeqList] at h
    | cons y ys =>
      simp [tsBeqList] at h
      rw [tsBeq_eq x y h.1, tsBeqList_eq xs ys h.2]
theorem tsBeqFields_eq : ∀ (a b : List (String × TsType)), tsBeqFields a b = true → a = b
  | [], b, h => by cases b <;> simp_all [tsBeqFields]
  | (k, x) :: xs, b, h => by
    cases b with
    | nil => simp [tsBeqFields] at h
    | cons y ys =>
      obtain ⟨k', y⟩ := y
      simp [tsBeqFields] at h
      rw [h.1.1, tsBeq_eq x y h.1.2, tsBeqFields_eq xs ys h.2]
end

theorem lookup_of_lookupIs {tenv : List (String × TsType)} {n : String} {t : TsType}
    (h : lookupIs tenv n t = true) : tenv.lookup n = some t := by
  unfold lookupIs at h
  cases hl : tenv.lookup n with
  | none => simp [hl] at h
  | some t' => rw [hl] at h; rw [tsBeq_eq t' t h]

/-! ### how a type is referred to -/

/-- every name a type expression refers to is found in the environment -/
def Found (env : Env) (t : Ty) : Prop := ∀ q ∈ t.refs, (env.find? q).isSome = true

theorem typeRef_isSome (env : Env) : ∀ (t : Ty), Found env t → shapeOk t = true → (typeRef env t).isSome = true
  | .basic n bk, _, hs => by
    cases bk <;> simp_all [typeRef, shapeOk]
  | .time d, _, _ => by cases d <;> simp [typeRef]
  | .ptr e, _, hs => by simp [shapeOk] at hs
  | .ref q, hf, _ => by
    have := hf q (by simp [Ty.refs])
    cases h : env.find? q with
    | none => simp [h] at this
    | some d =>
      simp only [typeRef, h]
      cases d.body <;> simp
  | .map k e, hf, hs => by
    have hk : (typeRef env k).isSome = true := by
      cases k with
      | basic n bk => cases bk <;> simp_all [shapeOk, typeRef]
      | _ => simp [shapeOk] at hs
    have hse : shapeOk e = true := by
      cases k with
      | basic n bk => cases bk <;> simp_all [shapeOk]
      | _ => simp [shapeOk] at hs
    have he := typeRef_isSome env e (fun q hq => hf q (by simp [Ty.refs, hq])) hse
    cases h1 : typeRef env k with
    | none => simp [h1] at hk
    | some a =>
      cases h2 : typeRef env e with
      | none => simp [h2] at he
      | some b => simp [typeRef, h1, h2]
  | .arr n e, hf, hs => by
    simp only [shapeOk, Bool.and_eq_true] at hs
    have he := typeRef_isSome env e (fun q hq => hf q (by simpa [Ty.refs] using hq)) hs.1.2
    cases h2 : typeRef env e with
    | none => simp [h2] at he
    | some b =>
      obtain ⟨en, et⟩ := b
      simp only [typeRef, h2]
      by_cases hn : n ≥ 1
      · simp only [hn, if_true]
        cases e with
        | arr m e' =>
          have : (m == -1) = false := by simpa [hn] using hs.2
          simp [this]
        | map k' e' => simp [hn] at hs
        | _ => simp
      · simp [hn]

variable (tenv : List (String × TsType))
def Inh (t : TsType) (j : JVal) : Prop := Eventually (fun m => inhabits tenv m t j = true)
def KeyOk (k : TsType) (key : String) : Prop := Eventually (fun m => keyParses tenv m k key = true)

variable (env : Env)

theorem typeRef_eq (t : Ty) (h : (typeRef env t).isSome = true) : typeRef env t = some (refName env t, refTy env t) := by
  unfold refName refTy
  cases ht : typeRef env t with
  | none => simp [ht] at h
  | some p => rfl

def Prov (t : Ty) : Prop := ∀ p ∈ tsEnvOf (declsOfAnon env t), tenv.lookup p.1 = some p.2

section
variable {tenv} {env} {w : Wrappers} {ds : List Decl}

/-! ### `inhabits`, one constructor at a time: the theorems of `Props/C03.lean`, for every large enough fuel -/

theorem keyOk_str (key : String) : KeyOk tenv .str key := ev_succ fun _ => rfl

theorem keyOk_int {key : String} (hl : tenv.lookup "Int" = some (.brand .num "Int")) (hk : isNumericText key = true) :
    KeyOk tenv (.ref "Int") key := ev_shift (ev_shift (ev_succ fun _ => by simp [keyParses, hl, hk]))

theorem inh_str (s : String) : Inh tenv .str (.str s) := ev_succ fun _ => rfl
theorem inh_num (s : String) : Inh tenv .num (.num s) := ev_succ fun _ => rfl
theorem inh_bool (b : Bool) : Inh tenv .bool (.bool b) := ev_succ fun _ => rfl
theorem inh_null : Inh tenv .null .null := ev_succ fun _ => rfl
theorem inh_unknown (j : JVal) : Inh tenv .unknown j := ev_succ fun _ => by cases j <;> rfl
theorem inh_litStr (s : String) : Inh tenv (.litStr s) (.str s) := ev_succ fun _ => beq_self_eq_true s
theorem inh_litNum (s : String) : Inh tenv (.litNum s) (.num s) := ev_succ fun _ => beq_self_eq_true s
theorem inh_litBool (b : Bool) : Inh tenv (.litBool b) (.bool b) := ev_succ fun _ => beq_self_eq_true b

theorem inh_union {ts : List TsType} {t : TsType} {j : JVal} (hm : t ∈ ts) (h : Inh tenv t j) : Inh tenv (.union ts) j :=
  ev_shift (ev_mono h fun m hh => C03_enum_member tenv m ts t j hm hh)

theorem inh_ref {n : String} {t : TsType} {j : JVal} (hl : tenv.lookup n = some t) (h : Inh tenv t j) : Inh tenv (.ref n) j :=
  ev_shift (ev_mono h fun m hh => (C03_ref tenv m n t j hl).trans hh)

theorem inh_brand {b : TsType} {tag : String} {j : JVal} (h : Inh tenv b j) : Inh tenv (.brand b tag) j :=
  ev_shift (ev_mono h fun m hh => (C03_brand tenv m b tag j).trans hh)

theorem inh_arr {e : TsType} {l : List JVal} (h : ∀ x ∈ l, Inh tenv e x) : Inh tenv (.arr e) (.arr l) :=
  ev_shift (ev_mono (ev_forall_mem l _ h) fun m hh => (inhabits_arr tenv m e l).trans (List.all_eq_true.mpr hh))

theorem inh_tuple {es : List TsType} {l : List JVal} (hlen : es.length = l.length)
    (h : ∀ p ∈ es.zip l, Inh tenv p.1 p.2) : Inh tenv (.tuple es) (.arr l) :=
  ev_shift (ev_mono (ev_forall_mem _ _ h) fun m hh => by
    rw [inhabits_tuple, Bool.and_eq_true, beq_iff_eq, List.all_eq_true]; exact ⟨hlen, hh⟩)

theorem inh_record {k v : TsType} {kvs : List (String × JVal)}
    (h : ∀ p ∈ kvs, KeyOk tenv k p.1 ∧ Inh tenv v p.2) : Inh tenv (.record k v) (.obj kvs) :=
  ev_shift (ev_mono (ev_forall_mem kvs _ fun p hp => ev_and (h p hp).1 (h p hp).2) fun m hh => by
    rw [inhabits_record, List.all_eq_true]; exact fun p hp => Bool.and_eq_true _ _ ▸ hh p hp)

/-- objects are exact: every declared property is present with an inhabitant, and no other key -/
theorem inh_obj {fs : List (String × TsType)} {kvs : List (String × JVal)}
    (h1 : ∀ p ∈ fs, ∃ x, kvs.lookup p.1 = some x ∧ Inh tenv p.2 x)
    (h2 : ∀ p ∈ kvs, ∃ q ∈ fs, q.1 = p.1) : Inh tenv (.obj fs) (.obj kvs) :=
  have h' : ∀ p ∈ fs, Eventually (fun m => ∃ x, kvs.lookup p.1 = some x ∧ inhabits tenv m p.2 x = true) :=
    fun p hp => let ⟨x, hx, hi⟩ := h1 p hp; ev_mono hi fun m hm => ⟨x, hx, hm⟩
  ev_shift (ev_mono (ev_forall_mem fs _ h') fun m hh => (C03_object_exact tenv m fs kvs).mpr ⟨hh, h2⟩)

/-! ### `refTy` by the shape of the type, and what the declared names provide -/

theorem refTy_array {n : Int} {e : Ty} (hn : n ≥ 1) (h : (typeRef env (.arr n e)).isSome = true) :
    refTy env (.arr n e) = .ref (refName env (.arr n e)) := by
  unfold refTy refName
  simp only [typeRef] at h ⊢
  cases he : typeRef env e with
  | none => simp [he] at h
  | some p =>
    obtain ⟨en, et⟩ := p
    simp only [he, hn, if_true] at h ⊢
    cases e with
    | arr m e' =>
      by_cases hm : (m == -1) = true
      · simp [hm] at h
      · simp [hm]
    | map k' e' => simp at h
    | _ => simp

theorem refTy_slice {n : Int} {e : Ty} (hn : ¬ n ≥ 1) (he : (typeRef env e).isSome = true) :
    refTy env (.arr n e) = .union [.arr (refTy env e), .null] := by
  cases he' : typeRef env e with
  | none => simp [he'] at he
  | some p => simp [refTy, typeRef, he', hn]

theorem refTy_map {k e : Ty} (hk : (typeRef env k).isSome = true) (he : (typeRef env e).isSome = true) :
    refTy env (.map k e) = .union [.record (refTy env k) (refTy env e), .null] := by
  cases hk' : typeRef env k with
  | none => simp [hk'] at hk
  | some p =>
    cases he' : typeRef env e with
    | none => simp [he'] at he
    | some q => simp [refTy, typeRef, hk', he']

theorem tsEnvOf_append (a b : List (String × TsDecl)) : tsEnvOf (a ++ b) = tsEnvOf a ++ tsEnvOf b := by
  simp [tsEnvOf, List.flatMap_append]

theorem prov_int {g : String} (h : Prov tenv env (.basic g .int)) : tenv.lookup "Int" = some (.brand .num "Int") :=
  h ("Int", .brand .num "Int") (by simp [declsOfAnon, tsEnvOf])

theorem prov_arr_elem {n : Int} {e : Ty} (h : Prov tenv env (.arr n e)) : Prov tenv env e := fun p hp =>
  h p (by simp only [declsOfAnon, tsEnvOf_append, List.mem_append]; exact Or.inl hp)

theorem prov_arr_tuple {n : Int} {e : Ty} (hn : n ≥ 0) (h : Prov tenv env (.arr n e)) :
    tenv.lookup (refName env (.arr n e)) = some (.tuple (List.replicate n.toNat (refTy env e))) :=
  h (refName env (.arr n e), .tuple (List.replicate n.toNat (refTy env e))) (by
    simp only [declsOfAnon, tsEnvOf_append, List.mem_append, hn, if_true]
    exact Or.inr (by simp [tsEnvOf]))

theorem prov_map {k e : Ty} (h : Prov tenv env (.map k e)) : Prov tenv env k ∧ Prov tenv env e :=
  ⟨fun p hp => h p (by simp only [declsOfAnon, tsEnvOf_append, List.mem_append]; exact Or.inl hp),
   fun p hp => h p (by simp only [declsOfAnon, tsEnvOf_append, List.mem_append]; exact Or.inr hp)⟩

theorem found_of_tyIn (hf : ∀ d ∈ ds, env.find? d.q = some d) {t : Ty} (h : TyIn ds t) : Found env t := fun q hq => by
  obtain ⟨d, hd, rfl⟩ := h q hq
  simp [hf d hd]

end
variable (w : Wrappers) (ds : List Decl)

/-- the statement at fuel `n` -/
def Goal (n : Nat) : Prop :=
  ∀ t v, TyIn ds t → Prov tenv env t → noUnion env t = true → shapeOk t = true → hasType env n t v = true →
    Inh tenv (refTy env t) (encode env w n false t v)

/-- the statement at fuel `n`, in both kinds of position -/
def GoalP (n : Nat) : Prop :=
  ∀ wr t v, TyIn ds t → Prov tenv env t → pos env wr t = true → shapeOk t = true → hasType env n t v = true →
    Inh tenv (refTy env t) (encode env w n wr t v)

section
variable {tenv} {env} {w} {ds} {n : Nat}

/-! ### anonymous types -/

theorem goal_basic {g : String} {bk : BKind} {v : GoVal} (hp : Prov tenv env (.basic g bk))
    (ht : hasType env (n + 1) (.basic g bk) v = true) :
    Inh tenv (refTy env (.basic g bk)) (encode env w (n + 1) false (.basic g bk) v) := by
  rw [encode_basic]
  rcases hasType_basic ht with ⟨rfl, b, rfl⟩ | ⟨rfl, r, rfl⟩ | ⟨rfl, r, rfl⟩ | ⟨rfl, s, rfl⟩
  · exact inh_bool b
  · exact inh_ref (prov_int hp) (inh_brand (inh_num r))
  · exact inh_num r
  · exact inh_str s

theorem goal_time {d : Bool} {v : GoVal} (hp : Prov tenv env (.time d)) (ht : hasType env (n + 1) (.time d) v = true) :
    Inh tenv (refTy env (.time d)) (encode env w (n + 1) false (.time d) v) := by
  obtain ⟨s, rfl⟩ := hasType_time ht
  rw [encode_time]
  cases d
  · exact inh_ref (hp ("Time", .brand .str "Time") (by simp [declsOfAnon, tsEnvOf])) (inh_brand (inh_str s))
  · exact inh_ref (hp ("Date_", .brand .str "Date") (by simp [declsOfAnon, tsEnvOf])) (inh_brand (inh_str s))

/-- the text of a well-typed map key parses at the key type -/
theorem keyOk_of_keyOk {k e : Ty} {key : GoVal} (hp : Prov tenv env k) (hs : shapeOk (.map k e) = true)
    (hk : keyOk k key = true) : KeyOk tenv (refTy env k) (keyString key) := by
  cases k with
  | basic g bk =>
    cases bk <;> cases key <;> simp [keyOk, shapeOk] at hk hs
    · exact keyOk_str _
    · exact keyOk_int (prov_int hp) hk
  | _ => simp [shapeOk] at hs

theorem shapeOk_map {k e : Ty} (hs : shapeOk (.map k e) = true) : shapeOk k = true ∧ shapeOk e = true := by
  cases k with
  | basic g bk => cases bk <;> simp_all [shapeOk]
  | _ => simp [shapeOk] at hs

theorem goal_arr (hfound : ∀ d ∈ ds, env.find? d.q = some d) (hg : GoalP tenv env w ds n)
    {k : Int} {e : Ty} {v : GoVal} (hin : TyIn ds (.arr k e)) (hp : Prov tenv env (.arr k e))
    (hpe : pos env false e = true) (hs : shapeOk (.arr k e) = true)
    (ht : hasType env (n + 1) (.arr k e) v = true) :
    Inh tenv (refTy env (.arr k e)) (encode env w (n + 1) false (.arr k e) v) := by
  obtain ⟨nl, es, rfl, hlen, hall⟩ := hasType_arr.mp ht
  have hse : shapeOk e = true := by simp only [shapeOk, Bool.and_eq_true] at hs; exact hs.1.2
  have helems : ∀ x ∈ es.map (encode env w n false e), Inh tenv (refTy env e) x := by
    intro x hx
    obtain ⟨v', hv', rfl⟩ := List.mem_map.mp hx
    exact hg false e v' (tyIn_arr hin) (prov_arr_elem hp) hpe hse (hall v' hv')
  rw [encode_arr]
  by_cases hneg : k < 0
  · rw [refTy_slice (by omega) (typeRef_isSome env e (found_of_tyIn hfound (tyIn_arr hin)) hse)]
    cases nl <;> simp only [hneg, decide_true, Bool.and_true, Bool.and_false, if_true, Bool.false_eq_true, if_false]
    · exact inh_union (List.mem_cons_self ..) (inh_arr helems)
    · exact inh_union (by simp) inh_null
  · have hk0 : k ≠ 0 := by simp only [shapeOk, Bool.and_eq_true, bne_iff_ne] at hs; exact hs.1.1
    rw [refTy_array (by omega) (typeRef_isSome env _ (found_of_tyIn hfound hin) hs)]
    simp only [hneg, decide_false, Bool.false_and, Bool.false_eq_true, if_false]
    refine inh_ref (prov_arr_tuple (by omega) hp) (inh_tuple (by simp; omega) fun p hpz => ?_)
    rw [(List.mem_replicate.mp (List.of_mem_zip hpz).1).2]
    exact helems p.2 (List.of_mem_zip hpz).2

/-- an object whose entries are read at the key and element types of a map -/
theorem inh_entries (hfound : ∀ d ∈ ds, env.find? d.q = some d) {k e : Ty} (hin : TyIn ds (.map k e))
    (hp : Prov tenv env (.map k e)) (hs : shapeOk (.map k e) = true) {kvs : List (String × JVal)}
    (h : ∀ p ∈ kvs, KeyOk tenv (refTy env k) p.1 ∧ Inh tenv (refTy env e) p.2) :
    Inh tenv (refTy env (.map k e)) (.obj kvs) := by
  rw [refTy_map (typeRef_isSome env k (found_of_tyIn hfound (tyIn_map hin).1) (shapeOk_map hs).1)
    (typeRef_isSome env e (found_of_tyIn hfound (tyIn_map hin).2) (shapeOk_map hs).2)]
  exact inh_union (List.mem_cons_self ..) (inh_record h)

theorem goal_map (hfound : ∀ d ∈ ds, env.find? d.q = some d) (hg : GoalP tenv env w ds n)
    {k e : Ty} {v : GoVal} (hin : TyIn ds (.map k e)) (hp : Prov tenv env (.map k e))
    (hpe : pos env false e = true) (hs : shapeOk (.map k e) = true)
    (ht : hasType env (n + 1) (.map k e) v = true) :
    Inh tenv (refTy env (.map k e)) (encode env w (n + 1) false (.map k e) v) := by
  obtain ⟨nl, kvs, rfl, hall⟩ := hasType_map.mp ht
  rw [encode_map]
  cases nl <;> simp only [if_true, Bool.false_eq_true, if_false]
  · refine inh_entries hfound hin hp hs fun p hpm => ?_
    obtain ⟨kv, hkv, rfl⟩ := List.mem_map.mp hpm
    exact ⟨keyOk_of_keyOk (prov_map hp).1 hs (hall kv hkv).1,
      hg false e kv.2 (tyIn_map hin).2 (prov_map hp).2 hpe (shapeOk_map hs).2 (hall kv hkv).2⟩
  · rw [refTy_map (typeRef_isSome env k (found_of_tyIn hfound (tyIn_map hin).1) (shapeOk_map hs).1)
      (typeRef_isSome env e (found_of_tyIn hfound (tyIn_map hin).2) (shapeOk_map hs).2)]
    exact inh_union (by simp) inh_null

end

/-! ### named types -/

section
variable {tenv} {env} {w} {ds} {n : Nat} (F : Fragment env w tenv ds) {d : Decl} (hd : d ∈ ds)
include F hd

theorem provided_own {p : String × TsType} (h : p ∈ tsEnvOf (declOfNamed env d)) : tenv.lookup p.1 = some p.2 :=
  lookup_of_lookupIs (F.provided d hd p (by
    simp only [needed, tsEnvOf_append, List.mem_append]; exact Or.inl h))

theorem provided_child {t : Ty} (ht : t ∈ childTys d) : Prov tenv env t := fun p hp =>
  lookup_of_lookupIs (F.provided d hd p (by
    simp only [needed, tsEnvOf_append, List.mem_append]
    simp only [tsEnvOf, List.mem_flatMap] at hp ⊢
    obtain ⟨x, hx, hpx⟩ := hp
    exact Or.inr ⟨x, ⟨t, ht, hx⟩, hpx⟩))

theorem tyIn_child {t : Ty} (ht : t ∈ childTys d) : TyIn ds t := tyIn_of_closed (F.closed d hd) ht

end

section
variable {tenv} {env} {w} {ds} {n : Nat}

theorem refTy_ref {q : String} {d : Decl} (hf : env.find? q = some d) :
    refTy env (.ref q) = .ref (match d.body with | .struct _ _ _ => structTsName d | _ => d.name) := by
  simp only [refTy, typeRef, hf]
  cases d.body <;> rfl

theorem prov_ref (q : String) : Prov tenv env (.ref q) := fun p hp => by simp [declsOfAnon, tsEnvOf] at hp

theorem inh_lit {m : Member} {v : GoVal} (h : litOk m v = true) : Inh tenv (enumLiteral m) (scalarDoc v) := by
  cases v with
  | int r => cases hel : enumLiteral m <;> simp [litOk, hel] at h; subst h; exact inh_litNum _
  | float r => cases hel : enumLiteral m <;> simp [litOk, hel] at h; subst h; exact inh_litNum _
  | str s => cases hel : enumLiteral m <;> simp [litOk, hel] at h; subst h; exact inh_litStr _
  | bool b => cases hel : enumLiteral m <;> simp [litOk, hel] at h; subst h; exact inh_litBool _
  | _ => simp [litOk] at h

theorem goal_enum (F : Fragment env w tenv ds) {d : Decl} (hd : d ∈ ds) {un : String} {bk : BKind} {ms : List Member}
    {io : Bool} (hb : d.body = .enum un bk ms io) {v : GoVal} (ht : hasType env (n + 1) (.ref d.q) v = true) :
    Inh tenv (refTy env (.ref d.q)) (encode env w (n + 1) false (.ref d.q) v) := by
  have hf := F.found d hd
  rw [hasType_enum hf hb] at ht
  obtain ⟨m, hm, hlit⟩ := List.any_eq_true.mp ht
  rw [encode_enum hf hb, refTy_ref hf]
  simp only [hb]
  exact inh_ref (provided_own F hd (p := (d.name, .union (ms.map enumLiteral)))
      (by simp [declOfNamed, hb, tsEnvOf, Function.comp_def]))
    (inh_union (List.mem_map.mpr ⟨m, hm, rfl⟩) (inh_lit hlit))

theorem inh_kind_data {name : String} {t : TsType} {data : JVal} (h : Inh tenv t data) :
    Inh tenv (.obj [("Kind", .litStr name), ("Data", t)]) (.obj [("Data", data), ("Kind", .str name)]) := by
  refine inh_obj (fun p hp => ?_) (fun p hp => ?_)
  · simp only [List.mem_cons, List.mem_nil_iff, or_false] at hp
    rcases hp with rfl | rfl
    · exact ⟨.str name, by simp [List.lookup], inh_litStr _⟩
    · exact ⟨data, by simp [List.lookup], h⟩
  · simp only [List.mem_cons, List.mem_nil_iff, or_false] at hp
    rcases hp with rfl | rfl
    · exact ⟨("Data", t), by simp, rfl⟩
    · exact ⟨("Kind", .litStr name), by simp, rfl⟩

/-- a union value in a wrapped position -/
theorem goal_union (F : Fragment env w tenv ds) (hg : GoalP tenv env w ds n)
    {ud : Decl} (hud : ud ∈ ds) {ms : List Ty} (hb : ud.body = .union ms) {v : GoVal}
    (ht : hasType env (n + 1) (.ref ud.q) v = true) :
    Inh tenv (refTy env (.ref ud.q)) (encode env w (n + 1) true (.ref ud.q) v) := by
  have hf := F.found ud hud
  have hok := F.ok ud hud
  simp only [declOk, hb, Bool.and_eq_true, List.all_eq_true] at hok
  obtain ⟨name, mv, rfl, hany, hmv⟩ := (hasType_union hf hb).mp ht
  have hchild : ∀ m ∈ ms, m ∈ childTys ud := fun m hm => by simp [childTys, hb, hm]
  obtain ⟨md, hmd, hmt, hmem, hname⟩ := memberTy_of_any F.found hb (fun m hm => by
    have hr := (hok.1 m hm).2
    cases m <;> simp at hr
    exact tyIn_ref.mp (tyIn_child F hud (hchild _ hm)) |>.imp fun md h => ⟨h.1, by rw [h.2]⟩) hany
  rw [hmt] at hmv
  rw [encode_union hf hb, if_pos rfl, hmt, refTy_ref hf]
  simp only [hb]
  have hl : tenv.lookup ud.name = some (.union (ms.map fun m =>
      .obj [("Kind", .litStr (localNameOf env m)), ("Data", refTy env m)])) :=
    provided_own F hud (p := (ud.name, _)) (by
      simp only [declOfNamed, hb, tsEnvOf, List.flatMap_cons, List.flatMap_nil, List.append_nil, List.map_map,
        List.mem_singleton, Prod.mk.injEq, true_and, TsType.union.injEq]
      apply List.map_congr_left
      intro m _
      cases m <;> simp only [localNameOf, Function.comp_def] <;> (try rfl) <;> (split <;> rfl))
  refine inh_ref hl (inh_union (List.mem_map.mpr ⟨_, hmem, rfl⟩) ?_)
  rw [show localNameOf env (.ref md.q) = name by simp [localNameOf, F.found md hmd, hname]]
  exact inh_kind_data (hg false _ mv (tyIn_ref.mpr ⟨md, hmd, rfl⟩) (prov_ref _)
    (hok.1 _ hmem).1 rfl hmv)

theorem goalP_named (F : Fragment env w tenv ds) (hg : GoalP tenv env w ds n) {d : Decl} (hd : d ∈ ds) {u : Ty}
    (hb : d.body = .named u) {v : GoVal} (ht : hasType env (n + 1) (.ref d.q) v = true) :
    Inh tenv (refTy env (.ref d.q)) (encode env w (n + 1) false (.ref d.q) v) := by
  have hf := F.found d hd
  have hok := F.ok d hd
  simp only [declOk, hb, Bool.and_eq_true] at hok
  obtain ⟨hshape, hname⟩ := hok
  rw [hasType_named hf hb] at ht
  rw [refTy_ref hf]
  simp only [hb]
  -- the alias the generator declares for the named type, unless it is a branded number
  -- (`simp` reduces the `match`es on `u` by `hint`, which it finds in the context)
  have halias : (∀ g, u ≠ .basic g .int) → tenv.lookup d.name = some (refTy env u) ∧ u ∈ childTys d := fun hint => by
    have hne : (d.name == refName env u) = false := by simpa using hname
    exact ⟨provided_own F hd (p := (d.name, refTy env u)) (by simp [declOfNamed, hb, hne, tsEnvOf]),
      by simp [childTys, hb]⟩
  by_cases hw : w.nameds.contains d.q = true
  · -- a named slice / map of unions, written element-wise through the wrapper: the elements are
    -- encoded with the fuel `n`, one more than the typing of the container leaves for them
    replace ht := hasType_mono env n _ _ ht
    rw [if_pos hw] at hshape
    split at hshape
    · simp only [Bool.and_eq_true, decide_eq_true_eq] at hshape
      obtain ⟨hl, hchild⟩ := halias fun g h => by cases h
      have hin := tyIn_arr (tyIn_child F hd hchild)
      obtain ⟨nl, es, rfl, -, hall⟩ := hasType_arr.mp ht
      rw [encode_namedSlice hf hb hw]
      refine inh_ref hl ?_
      rw [refTy_slice (by omega) (typeRef_isSome env _ (found_of_tyIn F.found hin) rfl)]
      refine inh_union (List.mem_cons_self ..) (inh_arr fun x hx => ?_)
      split at hx
      · cases hx
      · obtain ⟨v', hv', rfl⟩ := List.mem_map.mp hx
        exact hg true _ v' hin (prov_ref _) hshape.2 rfl (hall v' hv')
    · rename_i k uq
      simp only [Bool.and_eq_true] at hshape
      obtain ⟨hl, hchild⟩ := halias fun g h => by cases h
      have hin := tyIn_child F hd hchild
      have hs : shapeOk (.map k (.ref uq)) = true := by simpa [shapeOk] using hshape.1
      obtain ⟨nl, kvs, rfl, hall⟩ := hasType_map.mp ht
      rw [encode_namedMap hf hb hw]
      refine inh_ref hl (inh_entries F.found hin (provided_child F hd hchild) hs fun p hpm => ?_)
      obtain ⟨kv, hkv, rfl⟩ := List.mem_map.mp hpm
      exact ⟨keyOk_of_keyOk (prov_map (provided_child F hd hchild)).1 hs (hall kv hkv).1,
        hg true _ kv.2 (tyIn_map hin).2 (prov_ref _) hshape.2 rfl (hall kv hkv).2⟩
    · cases hshape
  · rw [if_neg hw, Bool.and_eq_true] at hshape
    rw [encode_named hf hb (Bool.not_eq_true _ ▸ hw)]
    by_cases hint : ∃ g, u = .basic g .int
    · obtain ⟨g, rfl⟩ := hint
      cases n with
      | zero => simp [hasType] at ht
      | succ n =>
        rw [encode_basic]
        rcases hasType_basic ht with ⟨h, -⟩ | ⟨-, r, rfl⟩ | ⟨h, -⟩ | ⟨h, -⟩ <;> try cases h
        exact inh_ref (provided_own F hd (p := (d.name, .brand .num d.name)) (by simp [declOfNamed, hb, tsEnvOf]))
          (inh_brand (inh_num r))
    · obtain ⟨hl, hchild⟩ := halias fun g h => hint ⟨g, h⟩
      exact inh_ref hl (hg false u v (tyIn_child F hd hchild) (provided_child F hd hchild) hshape.2 hshape.1 ht)

theorem goal_struct (F : Fragment env w tenv ds) (hg : GoalP tenv env w ds n)
    {d : Decl} (hd : d ∈ ds) {fs : List Field} {cs : List IR.Comment} {im : List String} (hb : d.body = .struct fs cs im)
    {v : GoVal} (ht : hasType env (n + 1) (.ref d.q) v = true) :
    Inh tenv (refTy env (.ref d.q)) (encode env w (n + 1) false (.ref d.q) v) := by
  have hf := F.found d hd
  obtain ⟨vals, rfl, hty⟩ := (hasType_struct hf hb).mp ht
  rw [hasTypeFields_eq, List.all_eq_true] at hty
  have hok := F.ok d hd
  simp only [declOk, hb, Bool.and_eq_true, List.all_eq_true, Bool.not_eq_true', decide_eq_true_eq] at hok
  obtain ⟨⟨⟨⟨hne, hfields⟩, hnd⟩, -⟩, hwrap⟩ := hok
  have hplain : ∀ f ∈ serialised fs, (tagOptions f.tag).contains "omitempty" = false ∧
      (tagOptions f.tag).contains "string" = false ∧ Tags.get f.tag "gomacro" ≠ "ignore" := fun f hfs => by
    have := (hfields f hfs).1
    simp only [plainField, Bool.and_eq_true, Bool.not_eq_true', bne_iff_ne, ne_eq] at this
    exact ⟨this.1.1.1, this.1.1.2, this.1.2⟩
  have hkey : ∀ f ∈ serialised fs, ∀ k, Tags.goJsonKey f.tag f.name f.goExported = some k → k = fkey f := fun f hfs _ => by
    have := (hfields f hfs).1
    simp only [plainField, Bool.and_eq_true] at this
    exact fkey_of_key this.2
  have hsel : selectedFields fs = serialised fs := filter_exported fun f hfs => (hplain f hfs).2.2
  have hl : tenv.lookup (structTsName d) = some (.obj ((serialised fs).map fun f =>
      (fkey f, if Tags.opaqueFor f.tag "typescript" then TsType.unknown else refTy env f.ty))) := by
    rw [← hsel]
    exact provided_own F hd (p := (structTsName d, _)) (by
      have hne' : fs.isEmpty = false := hne
      simp [declOfNamed, hb, hne', tsEnvOf, fkey])
  rw [encode_struct hf hb, refTy_ref hf]
  simp only [hb]
  refine inh_ref hl (inh_obj ?_ fun p hp => ?_)
  · -- every declared property is present with an inhabitant
    intro p hp
    obtain ⟨f, hfs, rfl⟩ := List.mem_map.mp hp
    obtain ⟨fv, hfv, htyv⟩ := (Option.any_eq_true _ _).mp (hty f hfs)
    dsimp only
    refine ⟨_, (encodeFields_lookup hkey hnd hfs hfv).trans (by
      rw [(hplain f hfs).1, quoteIf_noString (hplain f hfs).2.1]; rfl), ?_⟩
    split
    · exact inh_unknown _
    · rename_i hop
      have hchild : f.ty ∈ childTys d := by
        simp only [childTys, hb, hsel, List.mem_map, List.mem_filter]
        exact ⟨f, ⟨hfs, by simpa using hop⟩, rfl⟩
      have hfok := (hfields f hfs).2
      simp only [fieldTyOk, Bool.and_eq_true, Bool.or_eq_true] at hfok
      exact hg _ f.ty fv (tyIn_child F hd hchild) (provided_child F hd hchild)
        (pos_field hfok.2 fun hu => hwrap (List.any_eq_true.mpr ⟨f, hfs, hu⟩)) hfok.1 (by simpa [hop] using htyv)
  · -- no other key
    obtain ⟨f, hfs, hpk⟩ := encodeFields_keys hkey hp
    exact ⟨_, List.mem_map.mpr ⟨f, hfs, rfl⟩, by rw [hpk]⟩

/-- **the statement in both kinds of position**: a union of the program in a wrapped position, or a
type without union -/
theorem end_to_end (F : Fragment env w tenv ds) : ∀ n, GoalP tenv env w ds n
  | 0 => fun _ _ _ _ _ _ _ ht => by simp [hasType] at ht
  | n + 1 => fun wr t v hin hp hpos hs ht => by
    have hg := end_to_end F n
    cases pos_view F.found hin hpos with
    | basic g bk => exact goal_basic hp ht
    | time d => exact goal_time hp ht
    | arr hpe => exact goal_arr F.found hg hin hp hpe hs ht
    | map hpe => exact goal_map F.found hg hin hp hpe hs ht
    | named hd hb => exact goalP_named F hg hd hb ht
    | struct hd hb => exact goal_struct F hg hd hb ht
    | enum hd hb => exact goal_enum F hd hb ht
    | union hd hb => exact goal_union F hg hd hb ht

end

/-! ### the theorem -/

/-- **C03, end to end**: in a program of the fragment, for every type expression over its
declarations and every Go value of that type, the document `encoding/json` writes (with the generated
wrappers) inhabits the TypeScript type the generator refers to — for every sufficiently large fuel
of the two fuel-indexed semantics. -/
theorem C03_end_to_end (F : Fragment env w tenv ds) : ∀ n, Goal tenv env w ds n := by
  intro n t v hin hp hnu hs ht
  exact end_to_end F n false t v hin hp hnu hs ht

/-- the case of a named type as a step of the induction over unwrapped positions; `hg` is not needed,
`goalP_named` is the lemma `end_to_end` uses -/
theorem goal_named (F : Fragment env w tenv ds) (n : Nat) (hg : ∀ k, k ≤ n → Goal tenv env w ds k)
    (q : String) (d : Decl) (u : Ty) (v : GoVal) (hd : d ∈ ds) (hq : d.q = q) (hb : d.body = .named u)
    (ht : hasType env (n + 1) (.ref q) v = true) :
    Inh tenv (refTy env (.ref q)) (encode env w (n + 1) false (.ref q) v) := by
  subst hq
  exact goalP_named F (end_to_end F n) hd hb ht

/-- the decidable check implies the fragment conditions -/
theorem fragment_of_check (h : fragmentB env w tenv ds = true) : Fragment env w tenv ds := by
  simp only [fragmentB, Bool.and_eq_true, List.all_eq_true, decide_eq_true_eq, List.any_eq_true, beq_iff_eq] at h
  obtain ⟨⟨⟨h2, h3⟩, h4⟩, h5⟩ := h
  exact { found := h2, closed := h3, ok := h4, provided := fun d hd p hp => h5 d hd p hp }

/-- **C03, end to end, as evaluated per program**: when the decidable fragment check holds for a
program, every well-typed value of every source type gives a document that inhabits its type -/
theorem C03_end_to_end_checked (h : fragmentB env w tenv ds = true) (n : Nat) (q : String) (v : GoVal)
    (hq : ∃ d ∈ ds, d.q = q) (hnu : isUnionTy env (.ref q) = false) (ht : hasType env n (.ref q) v = true) :
    Inh tenv (refTy env (.ref q)) (encode env w n false (.ref q) v) :=
  C03_end_to_end tenv env w ds (fragment_of_check tenv env w ds h) n (.ref q) v (tyIn_ref.mpr hq)
    (prov_ref q) (by simp [noUnion, hnu]) (by simp [shapeOk]) ht

end Gomacro.E2E
