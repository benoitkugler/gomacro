import Gomacro.Analysis
import Gomacro.Lemmas.Dedup
/-!
# C11 — Union detection and membership are exact

Theorems about `pkgUnions` (model of `fetchPkgUnions`) and `implementsOf` (model of
`Struct.setImplements` as applied by `populateTypes`), for every scope and every
`types.Implements` matrix (which is a parameter: go/types is trusted).
-/
namespace Gomacro.Analysis
open List Gomacro.IR Gomacro.GoFacts

/-- the members the code computes for interface `i` of package `p` -/
def unionMembers (fb : FactBase) (p : PkgFacts) (i : String) : List String :=
  p.types.filter fun t => !isIfaceQ fb t && implementsB p t i

/-- **union iff**: a named interface of the package is a union exactly when some non-interface
named type of the same package implements it; its member list is then `unionMembers`. -/
theorem C11_union_iff (fb : FactBase) (p : PkgFacts) (i : String) (ms : List String) :
    (i, ms) ∈ pkgUnions fb p ↔
      (i ∈ p.types ∧ isIfaceQ fb i = true ∧ ms = unionMembers fb p i ∧ ms ≠ []) := by
  simp only [pkgUnions, unionMembers, List.mem_filterMap, List.mem_filter, Option.ite_none_left_eq_some,
    Option.some.injEq, Prod.mk.injEq, List.isEmpty_iff, ne_eq]
  constructor
  · rintro ⟨j, ⟨hj, hi⟩, hne, rfl, rfl⟩; exact ⟨hj, hi, rfl, hne⟩
  · rintro ⟨hj, hi, rfl, hne⟩; exact ⟨i, ⟨hj, hi⟩, hne, rfl, rfl⟩

/-- **members exact**: exactly the non-interface named types of the package implementing it -/
theorem C11_members_exact (fb : FactBase) (p : PkgFacts) (i t : String) :
    t ∈ unionMembers fb p i ↔ (t ∈ p.types ∧ isIfaceQ fb t = false ∧ implementsB p t i = true) := by
  unfold unionMembers
  simp [List.mem_filter]

theorem C11_no_interface_member (fb : FactBase) (p : PkgFacts) (i t : String)
    (h : t ∈ unionMembers fb p i) : isIfaceQ fb t = false :=
  ((C11_members_exact fb p i t).mp h).2.1

/-- members come from the union's own package scope -/
theorem C11_members_same_pkg (fb : FactBase) (p : PkgFacts) (i t : String)
    (h : t ∈ unionMembers fb p i) : t ∈ p.types :=
  ((C11_members_exact fb p i t).mp h).1

/-- **name order, each once**: the scope is strictly sorted by name, and so are the members -/
theorem C11_members_sorted_nodup (fb : FactBase) (p : PkgFacts) (i : String)
    (hs : p.types.Pairwise (· < ·)) : (unionMembers fb p i).Pairwise (· < ·) :=
  List.Pairwise.sublist List.filter_sublist hs

/-- **back-links exact**: the unions a struct reports are exactly the analysed unions listing it -/
theorem C11_implements_exact (unions : List (String × List String)) (analysed : List String)
    (q u : String) :
    u ∈ implementsOf unions analysed q ↔
      ∃ ms, (u, ms) ∈ unions ∧ u ∈ analysed ∧ q ∈ ms := by
  unfold implementsOf
  simp only [List.mem_mergeSort, List.mem_map, List.mem_filter, Bool.and_eq_true,
    List.contains_iff_mem, Prod.exists, exists_and_right, exists_eq_right]

/-- **back-links in name order** -/
theorem C11_implements_sorted (unions : List (String × List String)) (analysed : List String)
    (q : String) : (implementsOf unions analysed q).Pairwise (· ≤ ·) :=
  pairwise_mergeSort_key id _

/-! non-vacuity -/
example : "U0" ∈ implementsOf [("U1", ["S"]), ("U0", ["S", "T"]), ("U2", ["T"])] ["U0", "U1", "U2"] "S" :=
  (C11_implements_exact _ _ _ _).mpr ⟨["S", "T"], by decide, by decide, by decide⟩
example : "U2" ∉ implementsOf [("U1", ["S"]), ("U0", ["S", "T"]), ("U2", ["T"])] ["U0", "U1", "U2"] "S" := by
  rw [C11_implements_exact]
  rintro ⟨ms, h1, _, h3⟩
  simp at h1
  subst h1
  simp at h3

end Gomacro.Analysis
