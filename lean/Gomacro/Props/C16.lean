import Gomacro.SqlText
import Gomacro.Lemmas.Dedup
/-!
# C16 — SQL comment directives are expanded exactly

Theorems about `Gomacro/SqlText.lean` for every input string: whole-word table-name replacement,
enum placeholder expansion, classification of directives (select keys never reach the output),
owner of `ADD` constraints, numbering of custom-query placeholders.
-/
namespace Gomacro.SqlText
open List

/-! ### segmentation = the maximal `\w+` / non-`\w+` runs -/

theorem joinSegs_segments (s : List Char) : joinSegs (segments s) = s := by
  fun_induction segments s <;> simp_all [joinSegs]

/-- every run is non-empty and homogeneous: word runs hold word characters only, and conversely -/
theorem segments_homogeneous (s : List Char) :
    ∀ seg ∈ segments s, seg.2 ≠ [] ∧ ∀ c ∈ seg.2, isWord c = seg.1 := by
  fun_induction segments s with
  | case1 => simp
  | case2 c cs k run rest e hk ih =>
    rw [e, forall_mem_cons] at ih
    exact forall_mem_cons.mpr
      ⟨⟨cons_ne_nil _ _, forall_mem_cons.mpr ⟨(beq_iff_eq.mp hk).symm, ih.1.2⟩⟩, ih.2⟩
  | case3 c cs k run rest e _ ih =>
    rw [e] at ih
    exact forall_mem_cons.mpr ⟨⟨cons_ne_nil _ _, by simp⟩, ih⟩
  | case4 => simp

def alternating : List (Bool × List Char) → Bool
  | a :: b :: rest => a.1 != b.1 && alternating (b :: rest)
  | _ => true

/-- runs are maximal: two consecutive runs are never of the same class -/
theorem segments_alternating (s : List Char) : alternating (segments s) = true := by
  fun_induction segments s with
  | case1 => rfl
  | case2 c cs k run rest e _ ih => rw [e] at ih; cases rest <;> exact ih
  | case3 c cs k run rest e hk ih =>
    rw [e] at ih
    simp only [alternating, ih, Bool.and_true, bne_iff_ne]
    exact fun h => hk (by simp [h])
  | case4 => rfl

/-- **exact replacement**: the output is the run decomposition of the input in which every word
run that is a key is replaced by its table name, every other run (all other bytes) kept as is. -/
theorem C16_words_exact (m : List (List Char × List Char)) (s : List Char) :
    replaceWords m s = joinSegs ((segments s).map fun seg =>
      if seg.1 then (seg.1, (m.lookup seg.2).getD seg.2) else seg) := by
  unfold replaceWords
  congr 1
  apply List.map_congr_left
  intro (k, run) _
  cases k
  · rfl
  · dsimp only
    cases m.lookup run <;> rfl

/-- **whole words only**: `Replace` is the identity on every string none of whose maximal words is
a table name — in particular a table name inside a longer word is left alone. -/
theorem C16_words_untouched (m : List (List Char × List Char)) (s : List Char)
    (h : ∀ seg ∈ segments s, seg.1 = true → m.lookup seg.2 = none) : replaceWords m s = s := by
  rw [C16_words_exact, List.map_congr_left (g := id), List.map_id, joinSegs_segments]
  intro seg hseg
  split
  · rw [h seg hseg ‹_›]; rfl
  · rfl

/-! ### enum placeholders -/

theorem takeWord_append_cons (w : List Char) (c : Char) (rest : List Char)
    (hw : ∀ x ∈ w, isWord x = true) (hc : isWord c = false) :
    takeWord (w ++ c :: rest) = (w, c :: rest) := by
  rw [takeWord, takeWhile_append_of_pos hw, dropWhile_append_of_pos hw,
    takeWhile_cons_of_neg (by simp [hc]), dropWhile_cons_of_neg (by simp [hc]), append_nil]

/-- a well-formed placeholder `#[T.V]` is recognised, whatever follows -/
theorem matchEnumPlaceholder_wf (t v rest : List Char) (ht : t ≠ []) (hv : v ≠ [])
    (hwt : ∀ c ∈ t, isWord c = true) (hwv : ∀ c ∈ v, isWord c = true) :
    matchEnumPlaceholder ('#' :: '[' :: (t ++ '.' :: (v ++ ']' :: rest))) = some (t, v, rest) := by
  simp [matchEnumPlaceholder, takeWord_append_cons t '.' _ hwt (by decide),
    takeWord_append_cons v ']' _ hwv (by decide), ht, hv]

/-- **enum literal**: a placeholder is replaced by the SQL literal of the constant followed by a
comment naming it; the literal is whatever `lit` says — numbers as written, strings single-quoted
(`sqlLit` below) in the repaired code. -/
theorem C16_enum_literal (lit : List Char → List Char → Option (List Char)) (t v rest l : List Char)
    (fuel : Nat) (ht : t ≠ []) (hv : v ≠ [])
    (hwt : ∀ c ∈ t, isWord c = true) (hwv : ∀ c ∈ v, isWord c = true) (hl : lit t v = some l) :
    replaceEnumsAux lit (fuel + 1) ('#' :: '[' :: (t ++ '.' :: (v ++ ']' :: rest))) =
      (replaceEnumsAux lit fuel rest).map
        (fun out => l ++ " /* ".toList ++ t ++ ['.'] ++ v ++ " */".toList ++ out) := by
  rw [replaceEnumsAux, matchEnumPlaceholder_wf t v rest ht hv hwt hwv]
  simp only [hl]
  cases replaceEnumsAux lit fuel rest <;> rfl

/-- SQL literal of a constant: numbers as written, strings single-quoted with `'` doubled -/
def sqlLit (isString : Bool) (value : List Char) : List Char :=
  if isString then '\'' :: (value.flatMap fun c => if c == '\'' then ['\'', '\''] else [c]) ++ ['\'']
  else value

theorem sqlLit_number (v : List Char) : sqlLit false v = v := rfl

theorem sqlLit_string_quoted (v : List Char) :
    (sqlLit true v).head? = some '\'' ∧ (sqlLit true v).getLast? = some '\'' := by
  refine ⟨by simp [sqlLit], ?_⟩
  simp only [sqlLit, if_true]
  exact List.getLast?_concat

/-! ### classification: internal directives never reach the SQL output -/

/-- the constraints kept are the comments not recognised as `_SELECT KEY (…)`, in order -/
theorem classify_constraints (comments : List (List Char)) :
    (classify comments).constraints = comments.filter fun c => (selectKey c).length == 0 := by
  unfold classify
  -- from any accumulator, the fold appends the comments kept to its constraints
  show _ = (⟨[], [], [], []⟩ : Classified).constraints ++ _
  generalize (⟨[], [], [], []⟩ : Classified) = acc
  induction comments generalizing acc with
  | nil => exact (append_nil _).symm
  | cons x xs ih =>
    rw [foldl_cons, ih, filter_cons]
    -- the updates of the other three fields leave `constraints` alone
    simp only [apply_ite Classified.constraints, ite_self]
    by_cases h : (selectKey x).length = 0 <;> simp [h]

/-- **select keys hidden**: no comment recognised as `_SELECT KEY (…)` is kept as a constraint -/
theorem C16_select_key_hidden (comments : List (List Char)) :
    ∀ c ∈ (classify comments).constraints, selectKey c = [] := fun c hc => by
  rw [classify_constraints, mem_filter, beq_iff_eq, length_eq_zero_iff] at hc
  exact hc.2

/-! ### owner of `ADD` constraints -/

/-- **owner**: a constraint whose expansion starts with `ADD` is attached to the table of the
struct that carries the comment (`owner`), and to no other. -/
theorem C16_add_owner (tables : List (List Char)) (lit) (owner content out : List Char)
    (h : customConstraint tables lit owner content = some out) :
    ∃ body, replaceEnums lit (replaceWords (tableReplacer tables) (rewriteReferences sqlTableName content)) = some body ∧
      (startsWith kwADD body = true →
        out = kwAlterTable ++ sqlTableName owner ++ [' '] ++ body ++ [';']) ∧
      (startsWith kwADD body = false → out = body ++ [';']) := by
  unfold customConstraint at h
  dsimp only at h
  split at h
  · cases h
  next body hb =>
    refine ⟨body, hb, fun hs => ?_, fun hs => ?_⟩
    · rw [if_pos hs] at h; exact (Option.some.inj h).symm
    · rw [if_neg (Bool.eq_false_iff.mp hs)] at h; exact (Option.some.inj h).symm

/-! ### custom queries: numbering by first occurrence -/

theorem dedupVars_eq (ms : List (List Char × List Char)) (seen : List (List Char)) :
    dedupVars ms seen = dedupKey (·.2) seen ms := by
  induction ms generalizing seen with
  | nil => rfl
  | cons p ps ih => simp only [dedupVars, dedupKey, ih, contains_iff_mem]

/-- **one argument per distinct name, in order of first occurrence**: the inputs are the matched
`field = $name$` pairs with later repetitions of a name dropped; names are pairwise distinct,
every matched name is present, and input number i (from 1) is what `$name$` is rewritten to. -/
theorem C16_query_inputs (comment : List Char) :
    let q := customQuery comment
    let ms := queryMatches (comment.length + 1) comment
    q.inputs.Sublist ms ∧ (q.inputs.map (·.2)).Nodup ∧
    (∀ v, v ∈ q.inputs.map (·.2) ↔ v ∈ ms.map (·.2)) := by
  simp only [customQuery, dedupVars_eq]
  exact ⟨dedupKey_sublist .., nodup_dedupKey_keys .., fun v => by simp [mem_dedupKey_keys]⟩

/-! non-vacuity -/
-- `String.toList_ofList` unpacks a literal in one step; left to the kernel, `"…".toList` is a UTF-8
-- round trip through `ByteArray`, which costs more than the function under test.
example : (customQuery "Q UPDATE T SET A = $v$ WHERE B = $w$ OR A=$v$;".toList).query
    = "UPDATE T SET A = $1 WHERE B = $2 OR A=$1;".toList := by
  repeat rw [String.toList_ofList]
  decide +kernel

/-! ### guard values -/

theorem matchEnumPlaceholder_ne_hash (c : Char) (cs : List Char) (h : c ≠ '#') :
    matchEnumPlaceholder (c :: cs) = none := by
  unfold matchEnumPlaceholder
  split
  next heq => exact absurd (List.cons.inj heq).1 h
  · rfl

theorem replaceEnumsAux_no_hash (lit : List Char → List Char → Option (List Char)) :
    ∀ (fuel : Nat) (s : List Char), s.length < fuel → (∀ c ∈ s, c ≠ '#') → replaceEnumsAux lit fuel s = some s
  | 0, _, h, _ => absurd h (Nat.not_lt_zero _)
  | _ + 1, [], _, _ => rfl
  | fuel + 1, c :: cs, hl, hh => by
    have ⟨hc, hcs⟩ := forall_mem_cons.mp hh
    rw [replaceEnumsAux, matchEnumPlaceholder_ne_hash c cs hc,
      replaceEnumsAux_no_hash lit fuel cs (Nat.lt_of_succ_lt_succ hl) hcs]
    rfl

/-- **guard values**: a guard value without enum placeholder reaches the DEFAULT and the CHECK of
its column verbatim — whatever words it contains, table names of the file included: no word of it
is altered. -/
theorem C16_guard_value_verbatim (lit : List Char → List Char → Option (List Char))
    (owner col value : List Char) (h : ∀ c ∈ value, c ≠ '#') :
    guardConstraints lit owner col value =
      some [kwAlterTable ++ sqlTableName owner ++ " ALTER COLUMN ".toList ++ col ++ " SET DEFAULT ".toList ++ value ++ [';'],
            kwAlterTable ++ sqlTableName owner ++ " ADD CHECK(".toList ++ col ++ " = ".toList ++ value ++ ");".toList] := by
  unfold guardConstraints replaceEnums
  rw [replaceEnumsAux_no_hash lit (value.length + 1) value (Nat.lt_succ_self _) h]

/-- non-vacuity: the value `'Repas'` of a guard next to a table struct `Repas` -/
example : guardConstraints (fun _ _ => none) "Repas".toList "kind".toList "'Repas'".toList =
    some ["ALTER TABLE repass ALTER COLUMN kind SET DEFAULT 'Repas';".toList,
          "ALTER TABLE repass ADD CHECK(kind = 'Repas');".toList] := by
  repeat rw [String.toList_ofList]
  decide +kernel

example : replaceWords (tableReplacer ["Repas".toList]) "Repas MyRepas Repas_x (Repas)".toList
    = "repass MyRepas Repas_x (repass)".toList := by
  repeat rw [String.toList_ofList]
  decide +kernel

end Gomacro.SqlText
