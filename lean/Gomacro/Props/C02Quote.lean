import Gomacro.Lemmas.Decode
/-!
# The `string` option: the decoder's reading inverts the encoder's quoting

`unescQ_escapeGo`: reading a Go-escaped JSON string literal gives the string back;
`fieldDoc_quoteIf`: for a strictly typed value of a field on which the option is inside the fragment
(`Unquote.stringOk`), what the decoder hands to the field's own decoding is the document the
encoder quoted.
-/
namespace Gomacro.Unquote
open Gomacro.IR Gomacro.GoJson

theorem hexVal_hexDigit : ∀ k, k < 16 → hexVal (hexDigit k) = some k := by decide

theorem hex4_low (n : Nat) (h : n < 256) :
    hex4 '0' '0' (hexDigit (n / 16)) (hexDigit (n % 16)) = some n := by
  have h1 := hexVal_hexDigit (n / 16) (by omega)
  have h2 := hexVal_hexDigit (n % 16) (by omega)
  have h0 : hexVal '0' = some 0 := by decide
  simp only [hex4, h0, h1, h2]
  congr 1
  omega

theorem unescQ_esc1 (x : Char) (r : List Char) (y : Char)
    (h : (x, y) = ('"', '"') ∨ (x, y) = ('\\', '\\') ∨ (x, y) = ('n', '\n') ∨ (x, y) = ('r', '\r') ∨ (x, y) = ('t', '\t')) :
    unescQ ('\\' :: x :: r) = (unescQ r).map (y :: ·) := by
  rcases h with h | h | h | h | h <;> cases h <;> (rw [unescQ.eq_def]; rfl)

theorem unescQ_plain (c : Char) (r : List Char) (h1 : c ≠ '"') (h2 : c ≠ '\\') :
    unescQ (c :: r) = (unescQ r).map (c :: ·) := by
  rw [unescQ.eq_def]; simp [h1, h2]

theorem unescQ_u (a b c d : Char) (r : List Char) (k : Nat) (h : hex4 a b c d = some k) :
    unescQ ('\\' :: 'u' :: a :: b :: c :: d :: r) = (unescQ r).map (Char.ofNat k :: ·) := by
  have : unescQ ('\\' :: 'u' :: a :: b :: c :: d :: r) =
      match hex4 a b c d with | some k => (unescQ r).map (Char.ofNat k :: ·) | none => none := by
    rw [unescQ.eq_def]; rfl
  rw [this, h]

theorem unescQ_end : unescQ ['"'] = some [] := by rw [unescQ.eq_def]; rfl

theorem u2028 : "\\u2028".toList = ['\\', 'u', '2', '0', '2', '8'] := by decide +kernel
theorem u2029 : "\\u2029".toList = ['\\', 'u', '2', '0', '2', '9'] := by decide +kernel

/-- `unescQ_u` when the code is that of a given character -/
theorem unescQ_u_char (a b c d x : Char) (r : List Char) (h : hex4 a b c d = some x.toNat) :
    unescQ ('\\' :: 'u' :: a :: b :: c :: d :: r) = (unescQ r).map (x :: ·) := by
  rw [unescQ_u a b c d r _ h, Char.ofNat_toNat]

/-- one character: whatever `escapeGo` writes for it, `unescQ` reads it back and goes on -/
theorem unescQ_escapeGo_cons (c : Char) (cs r : List Char) :
    unescQ (escapeGo (c :: cs) ++ r) = (unescQ (escapeGo cs ++ r)).map (c :: ·) := by
  rw [escapeGo]
  -- `by_cases` with `if_pos` / `if_neg`: `split` on this nine-deep conditional is far slower to check
  by_cases h1 : (c == '"') = true
  · rw [if_pos h1, eq_of_beq h1]; exact unescQ_esc1 _ _ _ (.inl rfl)
  rw [if_neg h1]
  by_cases h2 : (c == '\\') = true
  · rw [if_pos h2, eq_of_beq h2]; exact unescQ_esc1 _ _ _ (.inr (.inl rfl))
  rw [if_neg h2]
  by_cases h3 : (c == '\n') = true
  · rw [if_pos h3, eq_of_beq h3]; exact unescQ_esc1 _ _ _ (.inr (.inr (.inl rfl)))
  rw [if_neg h3]
  by_cases h4 : (c == '\r') = true
  · rw [if_pos h4, eq_of_beq h4]; exact unescQ_esc1 _ _ _ (.inr (.inr (.inr (.inl rfl))))
  rw [if_neg h4]
  by_cases h5 : (c == '\t') = true
  · rw [if_pos h5, eq_of_beq h5]; exact unescQ_esc1 _ _ _ (.inr (.inr (.inr (.inr rfl))))
  rw [if_neg h5]
  by_cases h6 : (decide (c.toNat < 32) || c == '<' || c == '>' || c == '&') = true
  · have hlt : c.toNat < 256 := by
      simp only [Bool.or_eq_true, decide_eq_true_eq, beq_iff_eq] at h6
      rcases h6 with ((h | rfl) | rfl) | rfl
      · omega
      all_goals decide
    rw [if_pos h6]
    exact unescQ_u_char _ _ _ _ c _ (hex4_low _ hlt)
  rw [if_neg h6]
  by_cases h7 : (c.toNat == 0x2028) = true
  · rw [if_pos h7, u2028]
    exact unescQ_u_char _ _ _ _ c _ (by rw [eq_of_beq h7]; rfl)
  rw [if_neg h7]
  by_cases h8 : (c.toNat == 0x2029) = true
  · rw [if_pos h8, u2029]
    exact unescQ_u_char _ _ _ _ c _ (by rw [eq_of_beq h8]; rfl)
  rw [if_neg h8]
  exact unescQ_plain c _ (mt beq_iff_eq.mpr h1) (mt beq_iff_eq.mpr h2)

theorem unescQ_escapeGo_append (r : List Char) : ∀ cs : List Char,
    unescQ (escapeGo cs ++ r) = (unescQ r).map (cs ++ ·)
  | [] => by simp [escapeGo]
  | c :: cs => by
    rw [unescQ_escapeGo_cons, unescQ_escapeGo_append r cs, Option.map_map]; rfl

theorem unescQ_escapeGo : ∀ cs : List Char, unescQ (escapeGo cs ++ ['"']) = some cs :=
  fun cs => by rw [unescQ_escapeGo_append, unescQ_end, Option.map_some, List.append_nil]

theorem unquoteLit_str (s : String) :
    unquoteLit .str ("\"" ++ String.ofList (escapeGo s.toList) ++ "\"") = some (.str s) := by
  have : ("\"" ++ String.ofList (escapeGo s.toList) ++ "\"").toList = '"' :: (escapeGo s.toList ++ ['"']) := by
    simp [String.toList_append]
  simp only [unquoteLit, this, unescQ_escapeGo]
  simp

theorem unquoteLit_bool (b : Bool) : unquoteLit .bool (if b then "true" else "false") = some (.bool b) := by
  cases b <;> simp [unquoteLit]

open Gomacro.RoundTrip

theorem quoted_scalar (opts : List String) (hs : opts.contains "string" = true) (bk : BKind) (v : GoVal)
    (hk : kindMatches bk v = true) :
    (match quoteIf opts v (scalarDoc v) with | .str s => unquoteLit bk s | _ => none) = some (scalarDoc v) := by
  obtain ⟨rfl, b, rfl⟩ | ⟨rfl, r, rfl⟩ | ⟨rfl, r, rfl⟩ | ⟨rfl, s, rfl⟩ := kindMatches_cases hk <;>
    simp only [quoteIf, hs, if_true, scalarDoc, quoteScalar]
  · exact unquoteLit_bool b
  · rfl
  · rfl
  · exact unquoteLit_str s

variable (env : Env) (w : Wrappers)

theorem enc_basic (n : Nat) (sh : Bool) (g : String) (bk : BKind) (v : GoVal)
    (h : wt env n (.basic g bk) v = true) :
    kindMatches bk v = true ∧ encode env w n sh (.basic g bk) v = scalarDoc v := by
  cases n with
  | zero => simp [wt] at h
  | succ m => exact ⟨wt_basic g bk v ▸ h, encode_basic sh g bk v⟩

/-- a strictly typed value of a type that is not of scalar kind is not a scalar: the option is ignored -/
def nonScalar : GoVal → Bool
  | .bool _ => false
  | .int _ => false
  | .float _ => false
  | .str _ => false
  | _ => true

theorem quoteIf_nonScalar (opts : List String) (v : GoVal) (j : JVal) (h : nonScalar v = true) :
    quoteIf opts v j = j := by
  unfold quoteIf
  cases v <;> simp [nonScalar] at h <;> simp

theorem nonScalar_anon (n : Nat) (t : Ty) (v : GoVal) (h : wt env n t v = true)
    (ht : (match t with | .time _ => true | .arr _ _ => true | .map _ _ => true | _ => false) = true) :
    nonScalar v = true := by
  cases n with
  | zero => simp [wt] at h
  | succ m =>
    cases t with
    | time d => obtain ⟨s, rfl⟩ := wt_time h; rfl
    | arr k e => rcases wt_arr.mp h with ⟨_, _, rfl, _⟩ | ⟨_, _, rfl, _⟩ <;> rfl
    | map k e => obtain ⟨_, _, rfl, _⟩ := wt_map.mp h; rfl
    | _ => cases ht

theorem ite_none_of_bne {bk : BKind} (h : (bk != .none) = true) : (if bk == .none then none else some bk) = some bk :=
  if_neg (by simpa using h)

/-- the decision `fieldDoc` takes from the type agrees with the one `quoteIf` takes from the value:
a strictly typed value of a type quoted at kind `bk` is a scalar of that kind, written bare; of any
other type on which the option is inside the fragment it is no scalar, and the option is ignored -/
theorem quotedKind_spec (n : Nat) (sh : Bool) (t : Ty) (v : GoVal) (hso : stringOk env t = true)
    (hwt : wt env n t v = true) :
    match quotedKind env t with
    | some bk => kindMatches bk v = true ∧ encode env w n sh t v = scalarDoc v
    | none => nonScalar v = true := by
  cases n with
  | zero => simp [wt] at hwt
  | succ m =>
    cases t with
    | basic g bk =>
      rw [quotedKind, ite_none_of_bne hso]
      exact enc_basic env w _ sh g bk v hwt
    | ptr e => cases hso
    | ref q =>
      cases hfind : env.find? q with
      | none => simp [stringOk, hfind] at hso
      | some d =>
        simp only [stringOk, hfind] at hso
        simp only [quotedKind, hfind]
        cases hb : d.body with
        | enum g bk ms cs =>
          simp only [hb] at hso ⊢
          rw [ite_none_of_bne hso]
          rw [wt_enum hfind hb, Bool.and_eq_true] at hwt
          exact ⟨hwt.2, encode_enum hfind hb sh v⟩
        | named u =>
          rw [wt_named hfind hb] at hwt
          cases u with
          | basic g bk =>
            simp only [hb] at hso ⊢
            rw [ite_none_of_bne hso]
            -- whether or not the named type has generated methods, a basic type is written as such
            have he : encode env w (m + 1) sh (.ref q) v = encode env w m false (.basic g bk) v := by
              simp only [encode, hfind, hb]; split <;> rfl
            exact he ▸ enc_basic env w m false g bk v hwt
          | ptr e => simp [hb] at hso
          | ref r => simp [hb] at hso
          | _ => exact nonScalar_anon env m _ v hwt rfl
        | _ => cases v <;> simp [wt, hfind, hb] at hwt <;> rfl
    | _ => exact nonScalar_anon env _ _ v hwt rfl

theorem fieldDoc_quoteIf (f : Field) (n : Nat) (sh : Bool) (v : GoVal)
    (hok : (!(tagOptions f.tag).contains "string" || stringOk env f.ty) = true)
    (hwt : wt env n f.ty v = true) :
    fieldDoc env f (quoteIf (tagOptions f.tag) v (encode env w n sh f.ty v)) = some (encode env w n sh f.ty v) := by
  unfold fieldDoc
  split
  · rename_i hs
    have h := quotedKind_spec env w n sh f.ty v (by simpa only [hs, Bool.not_true, Bool.false_or] using hok) hwt
    cases hq : quotedKind env f.ty with
    | some bk =>
      rw [hq] at h
      rw [h.2]
      exact quoted_scalar _ hs bk v h.1
    | none =>
      rw [hq] at h
      rw [quoteIf_nonScalar _ _ _ h]
  · rename_i hs
    simp only [quoteIf, if_neg hs]

end Gomacro.Unquote
