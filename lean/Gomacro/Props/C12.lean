import Gomacro.Analysis
import Gomacro.Lemmas.Outcome
/-!
# C12 — The analysed type graph is closed, faithful and finite

Theorems about the declarative analysis model (`convert`, `declOf`, `analyse`).  The model is a
total Lean function: it terminates on every fact base, recursive declarations included, by
construction; that the recursive descent of the Go code computes the same environment is what the
correspondence runner checks on synthesised recursion shapes (self, mutual, through slices, maps,
arrays, unions) on every run — termination of the Go code itself is *not* proved (see DESIGN.md).
-/
namespace Gomacro.Analysis
open List Gomacro Gomacro.IR Gomacro.GoFacts

/-- what "classified as go/types reports" means for a type expression -/
inductive Faithful (fb : FactBase) : GoTy → Ty → Prop
  | basic (n info) : Faithful fb (.basic n info) (.basic n (bkOfInfo info))
  | array (n e e') : Faithful fb e e' → Faithful fb (.array n e) (.arr n e')
  | slice (e e') : Faithful fb e e' → Faithful fb (.slice e) (.arr (-1) e')
  | map (k k' e e') : Faithful fb k k' → Faithful fb e e' → Faithful fb (.map k e) (.map k' e')
  | ptr (e e') : Faithful fb e e' → Faithful fb (.ptr e) (.ptr e')
  | ref (q) : Faithful fb (.named q) (.ref q)
  | time (q tf) : fb.type? q = some tf → tf.pkgPath = "time" → tf.underStr = timeString →
      Faithful fb (.named q) (.time (isDateName tf.name))

/-- **faithful**: whenever a Go type expression converts, the IR expression has the same kind,
array length, key / element structure and basic name; `time.Time` is reported as predefined. -/
theorem C12_convert_faithful (fb : FactBase) : (t : GoTy) → (ty : Ty) → convert fb t = .ok ty →
    Faithful fb t ty
  | .basic n info, ty, h => by simp [convert] at h; subst h; exact .basic n info
  | .array _ e, ty, h | .slice e, ty, h | .ptr e, ty, h => by
    simp only [convert] at h
    split at h <;> simp at h
    subst h; constructor; exact C12_convert_faithful fb e _ ‹_›
  | .map k e, ty, h => by
    simp only [convert] at h
    split at h
    · split at h <;> simp at h
      subst h
      exact .map k _ e _ (C12_convert_faithful fb k _ ‹_›) (C12_convert_faithful fb e _ ‹_›)
    · simp at h
    · simp at h
  | .named q, ty, h => by
    simp only [convert, convertNamed] at h
    split at h
    · simp at h
    · rename_i tf htf
      split at h
      · rename_i hc
        simp only [Bool.and_eq_true, beq_iff_eq] at hc
        simp at h; subst h
        exact .time q tf htf hc.2 hc.1
      · simp at h; subst h; exact .ref q
  | .struct _, _, h | .iface _, _, h | .chan, _, h | .func, _, h | .tparam _, _, h | .other _, _, h => by
    simp [convert] at h

/-- the only runtime error of `convert`: a named leaf without a type fact -/
theorem convert_crash (fb : FactBase) : (t : GoTy) → (s : String) → convert fb t = .crash s →
    ∃ q, fb.type? q = none
  | .array _ e, s, h | .slice e, s, h | .ptr e, s, h => by
    simp only [convert] at h; split at h <;> simp at h
    exact convert_crash fb e _ ‹_›
  | .map k e, s, h => by
    simp only [convert] at h
    split at h
    · split at h <;> simp at h
      exact convert_crash fb e _ ‹_›
    · simp at h
    · exact convert_crash fb k _ ‹_›
  | .named q, s, h => by
    simp only [convert, convertNamed] at h
    split at h
    · exact ⟨q, ‹_›⟩
    · split at h <;> simp at h
  | .basic .., _, h | .struct _, _, h | .iface _, _, h | .chan, _, h | .func, _, h
  | .tparam _, _, h | .other _, _, h => by simp [convert] at h

/-- conversion never crashes on a type whose named leaves all have facts: unsupported forms
(anonymous structs, channels, functions, bare interfaces, type parameters) are diagnostics -/
theorem C12_convert_no_crash (fb : FactBase) (hfacts : ∀ q, (fb.type? q).isSome = true) :
    (t : GoTy) → (convert fb t).isCrash = false :=
  fun t => Outcome.isCrash_eq_false.mpr fun s h => by
    obtain ⟨q, hq⟩ := convert_crash fb t s h
    simpa [hq] using hfacts q

/-- what a successful `analyse` went through: the source list converted, the closure test passed -/
theorem analyse_ok (fb : FactBase) (r : Result) (h : analyse fb = .ok r) :
    sourceTys fb = .ok r.env.source ∧
      closedB r.env.source r.env.decls (r.failures.map (·.1)) = true := by
  unfold analyse at h
  dsimp only at h
  repeat' split at h
  all_goals cases h
  exact ⟨‹_›, ‹_›⟩

/-- **closed**: in a successful analysis every type referred to by the source list or by a
declaration of the environment is itself a declaration of the environment (or one the model
reports as refused). -/
theorem C12_closed (fb : FactBase) (r : Result) (h : analyse fb = .ok r) :
    closedB r.env.source r.env.decls (r.failures.map (·.1)) = true :=
  (analyse_ok fb r h).2

/-- spelled out for the fully accepted case: every reference resolves inside the environment -/
theorem C12_closed_refs (fb : FactBase) (r : Result) (h : analyse fb = .ok r)
    (hnf : r.failures = []) :
    ∀ d ∈ r.env.decls, ∀ q ∈ d.body.refs, ∃ d' ∈ r.env.decls, d'.q = q := by
  have hc := C12_closed fb r h
  unfold closedB at hc
  simp only [hnf, List.map_nil, List.contains_nil, Bool.or_false, Bool.and_eq_true,
    List.all_eq_true, List.any_eq_true, beq_iff_eq] at hc
  intro d hd q hq
  exact hc.2 d hd q hq

/-- **source order**: the source list is the list of type declarations of the analysed file, in
file order, each converted on its own -/
theorem C12_source_order (fb : FactBase) (r : Result) (h : analyse fb = .ok r) :
    sourceTys fb = .ok r.env.source :=
  (analyse_ok fb r h).1

/-- **identity of a declaration**: the IR declaration of a named type carries that type's
qualified name, package and type arguments -/
theorem C12_decl_identity (fb : FactBase) (enums : List EnumInfo) (unions : List (String × List String))
    (tf : TypeFact) (d : Decl) (h : declOf fb enums unions tf = .ok d) :
    d.q = tf.q ∧ d.name = tf.name ∧ d.pkgPath = tf.pkgPath ∧ d.targs = tf.targs := by
  unfold declOf at h
  simp only at h
  repeat' split at h
  all_goals cases h
  all_goals exact ⟨rfl, rfl, rfl, rfl⟩

end Gomacro.Analysis
