import Gomacro.Lemmas.Encode
/-!
# C02 — Union values survive a JSON round trip in the Kind/Data wire format

Theorems about `Gomacro/GoJson.lean` (`encode` = encoding/json + the wrappers gounions generates;
validated against the compiled real thing on every run):
 * wire format of a union value in a wrapped position;
 * a struct marshalled through its generated shadow struct keeps, for every non-union field,
   exactly the key and the encoding of the plain struct (struct tags included);
 * the generated `switch wr.Kind` decoder inverts the generated encoder (abstract codec form).
The round trip through encoding/json's own decoder for the non-union layers is NOT proved
(encoding/json is not modelled as a decoder); it is exercised on the compiled code on every run.
-/
namespace Gomacro.GoJson
open Gomacro.IR

/-- **wire format of a union**: in a wrapped position a member value `v` of member type `name` is
written as the object `{"Kind": name, "Data": <the member's own JSON>}`. -/
theorem C02_wire_union (env : Env) (w : Wrappers) (fuel : Nat) (q : String) (d : Decl) (ms : List Ty)
    (name : String) (mv : GoVal) (hd : env.find? q = some d) (hb : d.body = .union ms) :
    encode env w (fuel + 1) true (.ref q) (.iface (some (name, mv))) =
      .obj [("Data", encode env w fuel false (memberTy env d name) mv), ("Kind", .str name)] :=
  (encode_union hd hb true name mv).trans (if_pos rfl)

/-- outside a wrapped position (no generated code around it) Go writes the dynamic value bare -/
theorem wire_union_unwrapped (env : Env) (w : Wrappers) (fuel : Nat) (q : String) (d : Decl) (ms : List Ty)
    (name : String) (mv : GoVal) (hd : env.find? q = some d) (hb : d.body = .union ms) :
    encode env w (fuel + 1) false (.ref q) (.iface (some (name, mv))) =
      encode env w fuel false (memberTy env d name) mv :=
  (encode_union hd hb false name mv).trans (if_neg Bool.false_ne_true)

/-- **sibling fields**: marshalling a struct through the generated shadow struct gives, when none
of the listed fields is a union, exactly what encoding/json gives on the original struct: same
keys (tag names), same `omitempty` / `string` behaviour, same encodings. -/
theorem C02_shadow_fields_same (env : Env) (w : Wrappers) (fuel : Nat) (fs : List Field)
    (vals : List (String × GoVal)) (h : ∀ f ∈ fs, isUnionTy env f.ty = false) :
    encodeFields env w fuel true fs vals = encodeFields env w fuel false fs vals := by
  induction fs with
  | nil => simp [encodeFields]
  | cons f fs ih =>
    have hf := h f List.mem_cons_self
    have ih' := ih (fun g hg => h g (List.mem_cons_of_mem _ hg))
    simp only [encodeFields, hf, Bool.and_false, ih']

/-- the keys written for a struct do not depend on the shadow struct at all -/
theorem C02_shadow_keys_same (env : Env) (w : Wrappers) (fuel : Nat) (fs : List Field)
    (vals : List (String × GoVal)) :
    (encodeFields env w fuel true fs vals).map (·.1) = (encodeFields env w fuel false fs vals).map (·.1) := by
  induction fs with
  | nil => simp [encodeFields]
  | cons f fs ih =>
    simp only [encodeFields]
    split
    · split
      · exact ih
      · simp [ih]
    · exact ih

/-! ### the generated Kind/Data codec, abstractly -/

/-- `wrapper{Kind, Data}` as the generated `MarshalJSON` builds it -/
def wrap (kind : String) (data : JVal) : JVal := .obj [("Data", data), ("Kind", .str kind)]

/-- what the generated `UnmarshalJSON` reads back: `wr.Kind`, `wr.Data` (key order is irrelevant) -/
def unwrap : JVal → Option (String × JVal)
  | .obj kvs =>
    match kvs.lookup "Kind", kvs.lookup "Data" with
    | some (.str k), some d => some (k, d)
    | _, _ => none
  | _ => none

theorem unwrap_wrap (k : String) (d : JVal) : unwrap (wrap k d) = some (k, d) := by
  simp [wrap, unwrap, List.lookup]

/-- the generated `switch wr.Kind { case "M": json.Unmarshal(wr.Data, &data) … }` -/
def decodeUnion {α} (members : List (String × (JVal → Option α))) (j : JVal) : Option α :=
  match unwrap j with
  | some (k, d) => match members.lookup k with
    | some dec => dec d
    | none => none
  | none => none

/-- **round trip of the union layer**: if the member's own codec round-trips, so does the
Kind/Data codec, whichever member it is (member names are the dispatch keys). -/
theorem C02_union_codec_roundtrip {α} (members : List (String × (JVal → Option α)))
    (name : String) (dec : JVal → Option α) (enc : α → JVal) (v : α)
    (hm : members.lookup name = some dec) (hrt : dec (enc v) = some v) :
    decodeUnion members (wrap name (enc v)) = some v := by
  simp [decodeUnion, unwrap_wrap, hm, hrt]

/-- an unknown Kind is never decoded into a value (the generated code panics "exhaustive switch") -/
theorem decodeUnion_unknown_kind {α} (members : List (String × (JVal → Option α)))
    (k : String) (d : JVal) (h : members.lookup k = none) : decodeUnion members (wrap k d) = none := by
  simp [decodeUnion, unwrap_wrap, h]

/-- element-wise wrapping of a named slice of unions: one wrapped element per element, in order -/
theorem C02_named_slice_elementwise (env : Env) (w : Wrappers) (fuel : Nat) (e : Ty) (es : List GoVal) :
    (encodeListW env w fuel e es).length = es.length ∧
    ∀ i (h : i < es.length), (encodeListW env w fuel e es)[i]? = some (encode env w fuel true e es[i]) := by
  rw [encodeListW_eq]
  exact ⟨List.length_map _, fun i h => by rw [List.getElem?_map, List.getElem?_eq_getElem h]; rfl⟩

/-! non-vacuity: the hypotheses of `C02_wire_union` hold in a concrete environment -/
example : ∃ d ms, ({ pkgPath := "p", pkgName := "p", source := [], decls := [
      ⟨"p.U", "p", "p", "U", [], true, .union [.ref "p.X"]⟩,
      ⟨"p.X", "p", "p", "X", [], true, .struct [⟨"N", .basic "int" .int, "", true, false⟩] [] []⟩] } : Env).find? "p.U"
      = some d ∧ d.body = .union ms :=
  ⟨⟨"p.U", "p", "p", "U", [], true, .union [.ref "p.X"]⟩, [.ref "p.X"], by decide +kernel, rfl⟩

end Gomacro.GoJson
