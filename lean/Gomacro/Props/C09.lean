import Gomacro.Tags
/-!
# C09 — Field selection and JSON naming coincide with encoding/json

`Gomacro/Tags.lean` holds both sides: the rules of `analysis.StructField` (`exported`, `jsonName`)
and the rules of `encoding/json` (`goJsonKey`, validated against the real library on every run).
-/
namespace Gomacro.Tags

theorem exported_eq_true {tag : String} {goExported : Bool} :
    exported tag goExported = true ↔
      get tag "json" ≠ "-" ∧ get tag "gomacro" ≠ "ignore" ∧ goExported = true := by
  simp only [exported, Bool.ite_eq_true_distrib, Bool.false_eq_true, if_false_left, ne_eq]

theorem goJsonKey_isSome {tag goName : String} {goExported : Bool} :
    (goJsonKey tag goName goExported).isSome = true ↔ goExported = true ∧ get tag "json" ≠ "-" := by
  simp [goJsonKey, ← apply_ite some, Option.isSome_iff_exists]

/-- **selection**: a field takes part in the outputs iff encoding/json serialises it and it is
not tagged `gomacro:"ignore"` — for every tag string and field name. -/
theorem C09_selected_iff (tag goName : String) (goExported : Bool) :
    exported tag goExported = true ↔
      ((goJsonKey tag goName goExported).isSome = true ∧ get tag "gomacro" ≠ "ignore") := by
  rw [exported_eq_true, goJsonKey_isSome]
  exact ⟨fun ⟨hj, hg, he⟩ => ⟨⟨he, hj⟩, hg⟩, fun ⟨⟨he, hj⟩, hg⟩ => ⟨hj, hg, he⟩⟩

/-- **key**: a selected field appears under exactly the key encoding/json uses, whenever the name
part of the json tag is empty or made of characters encoding/json accepts in a tag name. -/
theorem C09_key_eq (tag goName : String) (goExported : Bool) (k : String)
    (hvalid : namePart (get tag "json") = "" ∨ isValidTag (namePart (get tag "json")) = true)
    (hk : goJsonKey tag goName goExported = some k) : jsonName tag goName = k := by
  -- both rules choose between the name part and the Go name; under `hvalid` by the same test
  have hn : namePart (get tag "json") ≠ "" ↔ isValidTag (namePart (get tag "json")) = true :=
    ⟨hvalid.resolve_left, fun hv e => by simp [e, isValidTag] at hv⟩
  simp only [goJsonKey, ← hn, ← apply_ite some, Option.ite_none_left_eq_some, Option.some.injEq] at hk
  rw [jsonName]
  exact hk.2.2

/-- the name part never contains a comma: tag options never reach an output key -/
theorem C09_no_option_in_key (v : String) : ',' ∉ (namePart v).toList := fun h => by
  rw [namePart, String.toList_ofList] at h
  simpa using List.all_eq_true.mp List.all_takeWhile _ h

/-- unexported, `json:"-"` and `gomacro:"ignore"` fields are never selected -/
theorem C09_ignored_not_selected (tag : String) (goExported : Bool)
    (h : goExported = false ∨ get tag "json" = "-" ∨ get tag "gomacro" = "ignore") :
    exported tag goExported = false :=
  Bool.eq_false_iff.mpr fun he => by
    obtain ⟨hj, hg, he⟩ := exported_eq_true.mp he
    rcases h with h | h | h
    · rw [he] at h; cases h
    · exact hj h
    · exact hg h

/-- The defect of the pinned commit, as a theorem: with the whole tag value as name,
`json:"x,omitempty"` was keyed `x,omitempty`. -/
theorem jsonNameOld_keeps_options :
    let v := ['x', ',', 'o']
    String.ofList v ≠ namePart (String.ofList v) := by
  decide +kernel

/-! non-vacuity: the hypotheses of `C09_key_eq` hold on a tag with options -/
example : lookupAux "json".toList 30 "xml:\"a\" json:\"x,omitempty\"".toList = some "x,omitempty".toList := by
  decide +kernel

end Gomacro.Tags
