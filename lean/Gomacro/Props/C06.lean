import Gomacro.DartGen
import Gomacro.Props.C09
/-!
# C06 — Dart JSON routines mirror the Go wire format and link across files

Theorems about the Dart model (`Gomacro/DartGen.lean`), which the correspondence runner compares,
file by file and declaration by declaration, with the real `dart.Generate`:
* structs: one constructor argument, one key read and one key written per exported field, in
  field order, under the key `encoding/json` uses;
* unions: dispatch on exactly the Go member names under Kind / Data; member classes implement
  their exported unions;
* enums: the value table lists exactly the exported constants, in order, and value → member →
  value is the identity;
* files: no file imports itself; a named type is emitted in the file of its package; linking
  (`closedFile`) is decidable and evaluated on every generated output.
-/
namespace Gomacro.DartGen
open List Gomacro.IR

/-! ### structs -/

/-- keys read by `fromJson`, keys written by `toJson`, constructor arguments: one per field of the
structured declaration, in order (what `printStruct` prints) -/
def DStruct.keysRead (s : DStruct) : List String := s.fields.map (·.jsonKey)
def DStruct.keysWritten (s : DStruct) : List String := s.fields.map (·.jsonKey)
def DStruct.ctorArgs (s : DStruct) : List String := s.fields.map (·.dartName)

/-- **one entry per exported field, in field order, keyed by JSONName** -/
theorem C06_struct_keys (env : Env) (d : Decl) (fs : List Field) (impls : List String) :
    (structOf env d fs impls).keysRead = (selectedFields fs).map (fun f => Tags.jsonName f.tag f.name) ∧
    (structOf env d fs impls).keysWritten = (structOf env d fs impls).keysRead ∧
    (structOf env d fs impls).ctorArgs.length = (selectedFields fs).length := by
  simp [DStruct.keysRead, DStruct.keysWritten, DStruct.ctorArgs, structOf, fieldOf, Function.comp_def]

/-- **the keys are Go's**: a selected field is read and written under the key encoding/json uses
(for tag names encoding/json accepts) -/
theorem C06_struct_key_is_go_key (env : Env) (f : Field) (k : String)
    (hvalid : Tags.namePart (Tags.get f.tag "json") = "" ∨ Tags.isValidTag (Tags.namePart (Tags.get f.tag "json")) = true)
    (hk : Tags.goJsonKey f.tag f.name f.goExported = some k) : (fieldOf env f).jsonKey = k := by
  simp only [fieldOf]
  exact Tags.C09_key_eq f.tag f.name f.goExported k hvalid hk

/-- **exactly the exported fields**: a field is among the constructor arguments iff encoding/json
serialises it and it is not tagged `gomacro:"ignore"` -/
theorem C06_struct_selection (f : Field) (fs : List Field) :
    f ∈ selectedFields fs ↔ f ∈ fs ∧
      ((Tags.goJsonKey f.tag f.name f.goExported).isSome = true ∧ Tags.get f.tag "gomacro" ≠ "ignore") := by
  simp only [selectedFields, List.mem_filter]
  rw [Tags.C09_selected_iff f.tag f.name f.goExported]

/-- the Dart field name is the key with a lower-case first letter; opaque fields are `dynamic` -/
theorem C06_struct_field_shape (env : Env) (f : Field) :
    (fieldOf env f).dartName = lowerFirst (fieldOf env f).jsonKey ∧
    ((fieldOf env f).isOpaque = true → (fieldOf env f).ty = "dynamic") := by
  constructor
  · simp only [fieldOf]
  · intro h
    simp only [fieldOf] at h ⊢
    rw [if_pos h]

/-! ### unions -/

/-- **dispatch on exactly the Go member names**, in order, for reading and for writing -/
theorem C06_union_tags (env : Env) (d : Decl) (ms : List Ty) :
    (unionOf env d ms).members.map (·.1) = ms.map (fun m =>
      match m with
      | .ref q => (match env.find? q with | some md => md.name | none => "?")
      | _ => "?") := by
  simp only [unionOf, List.map_map]
  apply List.map_congr_left
  intro a _
  cases a <;> rfl

theorem C06_union_one_case_per_member (env : Env) (d : Decl) (ms : List Ty) :
    (unionOf env d ms).members.length = ms.length := by
  simp [unionOf]

/-- **member classes implement their exported unions** -/
theorem C06_implements (env : Env) (d : Decl) (fs : List Field) (impls : List String) (n : String) :
    n ∈ (structOf env d fs impls).implements ↔
      ∃ q ∈ impls, ∃ u, env.find? q = some u ∧ u.exported = true ∧ u.name = n := by
  simp only [structOf, implementsOf, List.mem_filterMap, Option.bind_eq_some_iff,
    Option.ite_none_right_eq_some, Option.some.injEq]

/-! ### enums -/

/-- **the table lists exactly the exported constants**, in order, with their values -/
theorem C06_enum_table (d : Decl) (bk : BKind) (ms : List Member) (io : Bool) :
    (enumOf d bk ms io).members.map (·.2.1) = (ms.filter (·.exported)).map (·.valStr) ∧
    (enumOf d bk ms io).members.length = (ms.filter (·.exported)).length := by
  simp [enumOf, Function.comp_def]

/-- the conversion the generated extension implements: member index ↦ value, value ↦ index -/
def toValue (table : List String) (i : Nat) : Option String := table[i]?
def fromValue (table : List String) (v : String) : Option Nat :=
  let i := table.idxOf v
  if i < table.length then some i else none

/-- **member → value → member is the identity** when the values are pairwise distinct -/
theorem C06_enum_roundtrip (table : List String) (i : Nat) (hi : i < table.length) (hd : table.Nodup) :
    (toValue table i).bind (fromValue table) = some i := by
  simp only [toValue, List.getElem?_eq_getElem hi, Option.bind_some, fromValue]
  have := hd.idxOf_getElem i hi
  simp [this, hi]

/-- **value → member → value is the identity** for every value of the table -/
theorem C06_enum_roundtrip_value (table : List String) (v : String) (hv : v ∈ table) :
    (fromValue table v).bind (toValue table) = some v := by
  have hlt : table.idxOf v < table.length := List.idxOf_lt_length_of_mem hv
  simp [fromValue, hlt, toValue]

/-! ### files -/

/-- **no file imports itself** -/
theorem C06_no_self_import (env : Env) (pre : String) : ∀ f ∈ generate env pre, noSelfImport f = true := by
  intro f hf
  simp only [generate, List.mem_map] at hf
  obtain ⟨name, _, rfl⟩ := hf
  simp [noSelfImport]

/-- **a named type is emitted in the file assigned to its package** -/
theorem C06_named_in_its_package_file (env : Env) (pre : String) (d : Decl) :
    (ofNamed env pre d).1.file = fileOfPkg pre d.pkgPath := by
  unfold ofNamed
  cases d.body <;> rfl

/-- every declaration of an output file is assigned to that file -/
theorem C06_decls_of_file (env : Env) (pre : String) : ∀ f ∈ generate env pre, ∀ e ∈ f.candidates, e.file = f.name := by
  intro f hf e he
  simp only [generate, List.mem_map] at hf
  obtain ⟨name, _, rfl⟩ := hf
  simp only [List.mem_map, List.mem_filter] at he
  obtain ⟨⟨e', needs⟩, ⟨_, hfile⟩, rfl⟩ := he
  simpa using hfile

/-- when `closedFile` holds every symbol the file uses resolves under Dart scoping, to the file
meant to provide it -/
theorem C06_closed (files : List OutFile) (f : OutFile) (h : closedFile files f = true) :
    ∀ d ∈ f.decls, ∀ u ∈ d.uses, ∃ g, resolve files f u.1 = some g ∧ (∀ want, u.2 = some want → g = want) := by
  intro d hd u hu
  simp only [closedFile, Bool.and_eq_true, List.all_eq_true] at h
  have hok := h.1 u (List.mem_flatMap.mpr ⟨d, hd, hu⟩)
  unfold useOk at hok
  cases hr : resolve files f u.1 with
  | none => simp [hr] at hok
  | some g =>
    refine ⟨g, rfl, ?_⟩
    intro want hw
    simp only [hr, hw, beq_iff_eq] at hok
    exact hok

/-- enum constant names: the prefix up to the first underscore is cut (`Color_Red` ↦ `red`) -/
example : memberName "Color_Red" = "red" ∧ memberName "Foo_" = "foo_" ∧ memberName "Blue" = "blue" := by decide +kernel

end Gomacro.DartGen
