import Gomacro.RandSem
/-!
# C15 — Generated random-data functions return well-formed values

`gen` is the program the generated `rand<T>()` functions run, over an explicit stream of draws;
`gen … = none` = still running after `fuel` nested calls, or panicking.
Main theorem: whatever the draws, a returned value is well-formed.  Termination is stated for what
it is: `gen` returns for every draw stream as soon as it returns for one fuel (monotonicity is not
needed for the tie); for cyclic types the generated code does not return (known finding, replayed
on the compiled code).
-/
namespace Gomacro.RandSem
open List Gomacro.IR Gomacro.GoJson

/-- struct field names are pairwise distinct in every struct of the environment -/
def FieldNamesNodup (env : Env) : Prop :=
  ∀ q d fs cs im, env.find? q = some d → d.body = .struct fs cs im → (fs.map (·.name)).Nodup

abbrev GenWF (env : Env) (fuel : Nat) : Prop :=
  ∀ t ds v ds', gen env fuel t ds = some (v, ds') → wellFormed env fuel t v = true

theorem genN_wf (env : Env) (fuel : Nat) (ih : GenWF env fuel) (e : Ty) :
    ∀ n ds es ds', genN env fuel e n ds = some (es, ds') →
      es.length = n ∧ wellFormedAll env fuel e es = true := by
  intro n
  induction n with
  | zero => intro ds es ds' h; rw [genN] at h; cases h; exact ⟨rfl, by rw [wellFormedAll]⟩
  | succ n ihn =>
    intro ds es ds' h
    simp only [genN_succ, Option.bind_eq_some_iff, Option.map_eq_some_iff, Prod.exists, Prod.mk.injEq] at h
    obtain ⟨v, ds1, hv, vs, ds2, hr, rfl, rfl⟩ := h
    have ⟨hl, hw⟩ := ihn ds1 vs ds2 hr
    exact ⟨congrArg (· + 1) hl, by rw [wellFormedAll, ih _ _ _ _ hv, hw]; rfl⟩

theorem genEntries_wf (env : Env) (fuel : Nat) (ih : GenWF env fuel) (k e : Ty) :
    ∀ n ds kvs ds', genEntries env fuel k e n ds = some (kvs, ds') →
      kvs.length = n ∧ wellFormedEntries env fuel k e kvs = true := by
  intro n
  induction n with
  | zero => intro ds kvs ds' h; rw [genEntries] at h; cases h; exact ⟨rfl, by rw [wellFormedEntries]⟩
  | succ n ihn =>
    intro ds kvs ds' h
    simp only [genEntries_succ, Option.bind_eq_some_iff, Option.map_eq_some_iff, Prod.exists, Prod.mk.injEq] at h
    obtain ⟨kv, ds1, hk, v, ds2, hv, rest, ds3, hr, rfl, rfl⟩ := h
    have ⟨hl, hw⟩ := ihn ds2 rest ds3 hr
    exact ⟨congrArg (· + 1) hl, by rw [wellFormedEntries, ih _ _ _ _ hk, ih _ _ _ _ hv, hw]; rfl⟩

theorem genMembers_wf (env : Env) (fuel : Nat) (ih : GenWF env fuel) :
    ∀ ms ds vals ds', genMembers env fuel ms ds = some (vals, ds') →
      ∀ p ∈ vals, wellFormedMember env fuel ms p.1 p.2 = true := by
  intro ms
  induction ms with
  | nil => intro ds vals ds' h p hp; rw [genMembers] at h; cases h; cases hp
  | cons m ms ihm =>
    intro ds vals ds' h p hp
    simp only [genMembers_cons, Option.bind_eq_some_iff, Option.map_eq_some_iff, Prod.exists, Prod.mk.injEq] at h
    obtain ⟨v, ds1, hv, rest, ds2, hr, rfl, rfl⟩ := h
    rw [wellFormedMember, Bool.or_eq_true]
    rcases List.mem_cons.mp hp with rfl | hp
    · exact .inl (by rw [ih _ _ _ _ hv, beq_self_eq_true]; rfl)
    · exact .inr (ihm ds1 rest ds2 hr p hp)

theorem genMembers_length (env : Env) (fuel : Nat) :
    ∀ ms ds vals ds', genMembers env fuel ms ds = some (vals, ds') → vals.length = ms.length := by
  intro ms
  induction ms with
  | nil => intro ds vals ds' h; rw [genMembers] at h; cases h; rfl
  | cons m ms ihm =>
    intro ds vals ds' h
    simp only [genMembers_cons, Option.bind_eq_some_iff, Option.map_eq_some_iff, Prod.exists, Prod.mk.injEq] at h
    obtain ⟨v, ds1, _, rest, ds2, hr, rfl, rfl⟩ := h
    exact congrArg (· + 1) (ihm ds1 rest ds2 hr)

theorem genFields_names (env : Env) (fuel : Nat) :
    ∀ fs ds vals ds', genFields env fuel fs ds = some (vals, ds') →
      ∀ p ∈ vals, p.1 ∈ fs.map (·.name) := by
  intro fs
  induction fs with
  | nil => intro ds vals ds' h p hp; rw [genFields] at h; cases h; cases hp
  | cons f fs ihf =>
    intro ds vals ds' h p hp
    rw [genFields_cons] at h
    rw [List.map_cons, List.mem_cons]
    split at h
    · exact .inr (ihf ds vals ds' h p hp)
    · simp only [Option.bind_eq_some_iff, Option.map_eq_some_iff, Prod.exists, Prod.mk.injEq] at h
      obtain ⟨v, ds1, _, rest, ds2, hr, rfl, rfl⟩ := h
      rcases List.mem_cons.mp hp with rfl | hp
      · exact .inl rfl
      · exact .inr (ihf ds1 rest ds2 hr p hp)

theorem genFields_wf (env : Env) (fuel : Nat) (ih : GenWF env fuel) :
    ∀ fs ds vals ds', genFields env fuel fs ds = some (vals, ds') → (fs.map (·.name)).Nodup →
      wellFormedFields env fuel fs vals = true := by
  intro fs
  induction fs with
  | nil => intros; rw [wellFormedFields]
  | cons f fs ihf =>
    intro ds vals ds' h hnd
    obtain ⟨hf, hnd'⟩ := List.nodup_cons.mp (show (f.name :: fs.map (·.name)).Nodup from hnd)
    rw [genFields_cons] at h
    split at h
    · -- skipped field: no value is emitted under its name
      have hv : vals.lookup f.name = none := List.lookup_eq_none_iff.mpr fun p hp =>
        bne_iff_ne.mpr fun e : f.name = p.1 => hf (e ▸ genFields_names env fuel fs ds vals ds' h p hp)
      simp only [wellFormedFields, hv, ‹dataIgnored f = true›, Bool.true_and]
      exact ihf ds vals ds' h hnd'
    · simp only [Option.bind_eq_some_iff, Option.map_eq_some_iff, Prod.exists, Prod.mk.injEq] at h
      obtain ⟨v, ds1, hv, rest, ds2, hr, rfl, rfl⟩ := h
      -- the later fields have other names: their lookups skip the new entry
      simp only [wellFormedFields, List.lookup_cons_self, if_neg ‹_›, ih _ _ _ _ hv, Bool.true_and,
        wellFormedFields_cons_of_not_mem hf]
      exact ihf ds1 rest ds2 hr hnd'

theorem isEmpty_eq_false_of_length_pos {α} {l : List α} (h : 0 < l.length) : l.isEmpty = false :=
  List.isEmpty_eq_false_iff.mpr (List.ne_nil_of_length_pos h)

theorem valueMatches_memberGoVal (bk : BKind) (m : Member) : valueMatches m (memberGoVal bk m) = true := by
  cases bk <;> simp [memberGoVal, valueMatches]

/-- **C15 (well-formed)**: for every environment with distinct field names, every type, every
stream of random draws and every fuel, a value returned by the generated function is
well-formed: enum components are exported constants, union components are non-nil members,
arrays / slices / maps are populated with well-formed elements, skipped fields stay absent (zero). -/
theorem C15_wellformed (env : Env) (hnd : FieldNamesNodup env) : ∀ fuel, GenWF env fuel := by
  intro fuel
  induction fuel with
  | zero => intro t ds v ds' h; rw [gen] at h; cases h
  | succ fuel ih =>
    intro t ds v ds' h
    cases t with
    | basic n bk =>
      rw [gen] at h
      cases bk <;> cases h <;> rw [wellFormed]
    | time d => rw [gen] at h; cases h; rw [wellFormed]
    | arr n e =>
      rw [gen] at h
      split at h <;> simp only [Option.map_eq_some_iff, Prod.exists, Prod.mk.injEq] at h <;>
        obtain ⟨es, ds2, hr, rfl, rfl⟩ := h <;> have ⟨hl, hw⟩ := genN_wf env fuel ih e _ _ _ _ hr
      · simp only [wellFormed, hw, hl, beq_self_eq_true, Bool.and_self]
      · simp only [wellFormed, hw, isEmpty_eq_false_of_length_pos (l := es) (by omega), Bool.not_false,
          Bool.and_self]
    | map k e =>
      simp only [gen, Option.map_eq_some_iff, Prod.exists, Prod.mk.injEq] at h
      obtain ⟨kvs, ds2, hr, rfl, rfl⟩ := h
      have ⟨hl, hw⟩ := genEntries_wf env fuel ih k e _ _ _ _ hr
      simp only [wellFormed, hw, isEmpty_eq_false_of_length_pos (l := kvs) (by omega), Bool.not_false,
        Bool.and_self]
    | ptr e =>
      rw [gen] at h
      rw [wellFormed, ih _ _ _ _ h]
    | ref q =>
      cases hd : env.find? q with
      | none => simp only [gen, hd] at h; cases h
      | some d =>
        cases hb : d.body with
        | named u =>
          rw [gen_named hd hb] at h
          simp only [wellFormed, hd, hb, ih _ _ _ _ h]
        | enum under bk ms iota =>
          simp only [gen_enum hd hb, Option.map_eq_some_iff, Prod.mk.injEq] at h
          obtain ⟨m, hm, rfl, _⟩ := h
          have hm := List.mem_filter.mp (List.mem_of_getElem? hm)
          simp only [wellFormed, hd, hb, List.any_eq_true, Bool.and_eq_true]
          exact ⟨m, hm.1, hm.2, valueMatches_memberGoVal bk m⟩
        | struct fs cs im =>
          simp only [gen_struct hd hb, Option.map_eq_some_iff, Prod.exists, Prod.mk.injEq] at h
          obtain ⟨vals, ds2, hr, rfl, rfl⟩ := h
          simp only [wellFormed, hd, hb]
          exact genFields_wf env fuel ih fs ds vals ds2 hr (hnd q d fs cs im hd hb)
        | union ms =>
          simp only [gen_union hd hb, Option.bind_eq_some_iff, Option.map_eq_some_iff, Prod.exists,
            Prod.mk.injEq] at h
          obtain ⟨vals, ds2, hr, name, mv, hsel, rfl, _⟩ := h
          simp only [wellFormed, hd, hb]
          exact genMembers_wf env fuel ih ms ds vals ds2 hr (name, mv) (List.mem_of_getElem? hsel)

/-- an enum component of a well-formed value is one of the enum's exported constants -/
theorem C15_enum_component (env : Env) (fuel : Nat) (q : String) (d : Decl) (u : String) (bk : BKind)
    (ms : List Member) (iota : Bool) (v : GoVal) (hd : env.find? q = some d) (hb : d.body = .enum u bk ms iota)
    (h : wellFormed env (fuel + 1) (.ref q) v = true) : ∃ m ∈ ms, m.exported = true ∧ valueMatches m v = true := by
  simpa only [wellFormed, hd, hb, List.any_eq_true, Bool.and_eq_true] using h

/-- a union component of a well-formed value is never nil -/
theorem C15_union_non_nil (env : Env) (fuel : Nat) (q : String) (d : Decl) (ms : List Ty)
    (hd : env.find? q = some d) (hb : d.body = .union ms) :
    wellFormed env (fuel + 1) (.ref q) (.iface none) = false := by
  simp only [wellFormed, hd, hb]

/-- known finding, as a theorem: an enum without exported member makes the function panic
(`rand.Intn(0)`): `gen` never returns a value for it -/
theorem gen_enum_without_exported_member (env : Env) (fuel : Nat) (q : String) (d : Decl) (u : String)
    (bk : BKind) (ms : List Member) (iota : Bool) (ds : List Nat) (hd : env.find? q = some d)
    (hb : d.body = .enum u bk ms iota) (hex : exportedMembers ms = []) :
    gen env (fuel + 1) (.ref q) ds = none := by
  rw [gen_enum hd hb, hex]; rfl

def selfSliceEnv : Env := { pkgPath := "p", pkgName := "p", source := [], decls :=
  [⟨"p.R", "p", "p", "R", [], true, .struct [⟨"Kids", .arr (-1) (.ref "p.R"), "", true, false⟩] [] []⟩] }

/-- the struct waits for its slice and the slice (at least three elements) for the struct -/
theorem selfSlice_diverges : ∀ fuel, (∀ ds, gen selfSliceEnv fuel (.ref "p.R") ds = none) ∧
    (∀ ds, gen selfSliceEnv fuel (.arr (-1) (.ref "p.R")) ds = none)
  | 0 => ⟨fun _ => by rw [gen], fun _ => by rw [gen]⟩
  | f + 1 => by
    obtain ⟨hstruct, hslice⟩ := selfSlice_diverges f
    have hd : selfSliceEnv.find? "p.R" = selfSliceEnv.decls.head? := by decide +kernel
    constructor <;> intro ds
    · rw [gen_struct hd rfl, genFields_cons, if_neg (by decide +kernel), hslice]; rfl
    · simp only [gen, show ¬ (-1 : Int) ≥ 0 by decide, if_false,
        show 3 + (draw ds).1 % 5 = 2 + (draw ds).1 % 5 + 1 by omega, genN_succ, hstruct]; rfl

/-- known finding, as a theorem: a struct that contains a slice of itself never returns —
whatever the fuel and the draws (every slice gets at least three elements) -/
theorem gen_diverges_on_self_slice (fuel : Nat) :
    ∀ ds, gen selfSliceEnv fuel (.ref "p.R") ds = none :=
  (selfSlice_diverges fuel).1

/-! ### termination -/

theorem isSome_bind_of {α β} {o : Option α} {f : α → Option β} (ho : o.isSome)
    (hf : ∀ a, o = some a → (f a).isSome) : (o.bind f).isSome := by
  cases o with
  | none => cases ho
  | some a => exact hf a rfl

theorem isSome_getElem?_mod {α} {l : List α} (h : l ≠ []) (d : Nat) : l[d % l.length]?.isSome := by
  rw [List.getElem?_eq_getElem (Nat.mod_lt _ (List.length_pos_iff.mpr h))]; rfl

section
variable {env : Env} {fuel : Nat}

theorem genN_isSome {e : Ty} (h : ∀ ds, (gen env fuel e ds).isSome) : ∀ n ds, (genN env fuel e n ds).isSome
  | 0, _ => by rw [genN]; rfl
  | n + 1, ds => by
    rw [genN_succ]
    exact isSome_bind_of (h ds) fun _ _ => by rw [Option.isSome_map]; exact genN_isSome h n _

theorem genEntries_isSome {k e : Ty} (hk : ∀ ds, (gen env fuel k ds).isSome)
    (he : ∀ ds, (gen env fuel e ds).isSome) : ∀ n ds, (genEntries env fuel k e n ds).isSome
  | 0, _ => by rw [genEntries]; rfl
  | n + 1, ds => by
    rw [genEntries_succ]
    exact isSome_bind_of (hk ds) fun _ _ => isSome_bind_of (he _) fun _ _ => by
      rw [Option.isSome_map]; exact genEntries_isSome hk he n _

theorem genFields_isSome : ∀ (fs : List Field),
    (∀ f ∈ fs, dataIgnored f = false → ∀ ds, (gen env fuel f.ty ds).isSome) →
      ∀ ds, (genFields env fuel fs ds).isSome
  | [], _, _ => by rw [genFields]; rfl
  | f :: fs, h, ds => by
    have ih := genFields_isSome fs fun g hg => h g (List.mem_cons_of_mem _ hg)
    rw [genFields_cons]
    split
    · exact ih ds
    · exact isSome_bind_of (h f List.mem_cons_self (Bool.eq_false_iff.mpr ‹_›) ds) fun _ _ => by
        rw [Option.isSome_map]; exact ih _

theorem genMembers_isSome : ∀ (ms : List Ty), (∀ m ∈ ms, ∀ ds, (gen env fuel m ds).isSome) →
    ∀ ds, (genMembers env fuel ms ds).isSome
  | [], _, _ => by rw [genMembers]; rfl
  | m :: ms, h, ds => by
    rw [genMembers_cons]
    exact isSome_bind_of (h m List.mem_cons_self ds) fun _ _ => by
      rw [Option.isSome_map]
      exact genMembers_isSome ms (fun g hg => h g (List.mem_cons_of_mem _ hg)) _

end

theorem gen_isSome (env : Env) : ∀ (fuel : Nat) (t : Ty), returns env fuel t = true →
    ∀ ds, (gen env fuel t ds).isSome
  | 0, _, h => by rw [returns] at h; cases h
  | fuel + 1, t, h => by
    have ih := gen_isSome env fuel
    intro ds
    cases t with
    | basic g bk => rw [returns] at h; rw [gen]; cases bk <;> first | rfl | cases h
    | time d => rw [gen]; rfl
    | arr n e =>
      rw [returns, Bool.or_eq_true, beq_iff_eq] at h
      rw [gen]
      split <;> rw [Option.isSome_map]
      · rcases h with rfl | he
        · rw [Int.toNat_zero, genN]; rfl
        · exact genN_isSome (ih e he) _ _
      · exact genN_isSome (ih e (h.resolve_left (by omega))) _ _
    | map k e =>
      rw [returns, Bool.and_eq_true] at h
      rw [gen, Option.isSome_map]
      exact genEntries_isSome (ih k h.1) (ih e h.2) _ _
    | ptr e =>
      rw [returns] at h
      rw [gen]; exact ih e h ds
    | ref q =>
      cases hd : env.find? q with
      | none => simp only [returns, hd] at h; cases h
      | some d =>
        cases hb : d.body with
        | named u =>
          simp only [returns, hd, hb] at h
          rw [gen_named hd hb]; exact ih u h ds
        | enum un bk ms io =>
          simp only [returns, hd, hb, Bool.not_eq_true', List.isEmpty_eq_false_iff] at h
          rw [gen_enum hd hb, Option.isSome_map]
          exact isSome_getElem?_mod h _
        | struct fs cs im =>
          simp only [returns, hd, hb] at h
          rw [gen_struct hd hb, Option.isSome_map]
          exact genFields_isSome fs (fun f hf hi => ih f.ty (returnsFields_mem env fuel fs h f hf hi)) ds
        | union ms =>
          simp only [returns, hd, hb, Bool.and_eq_true, Bool.not_eq_true', List.isEmpty_eq_false_iff] at h
          rw [gen_union hd hb]
          refine isSome_bind_of (genMembers_isSome ms (fun m hm => ih m (returnsAll_mem env fuel ms h.2 m hm)) ds)
            fun (vals, ds1) hv => ?_
          rw [Option.isSome_map]
          -- one value per member: there is something to pick from
          have hl := genMembers_length env fuel ms ds vals ds1 hv
          exact isSome_getElem?_mod (List.length_pos_iff.mp (hl ▸ List.length_pos_iff.mpr h.1)) _

/-- **C15 (termination)**: when the static check `returns env fuel t` holds — every named type is
declared, no unsupported basic kind, every enum has an exported constant, every union a member, and
the recursion of the generated functions bottoms out within `fuel` nested calls (no type reaches
itself through a non-empty container, a field or a union member) — the generated function returns
a value, whatever the draws. -/
theorem C15_terminates (env : Env) : ∀ (fuel : Nat) (t : Ty), returns env fuel t = true →
    ∀ ds, ∃ v ds', gen env fuel t ds = some (v, ds') := fun fuel t h ds => by
  simpa only [Option.isSome_iff_exists, Prod.exists] using gen_isSome env fuel t h ds

end Gomacro.RandSem
