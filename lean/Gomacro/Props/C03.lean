import Gomacro.TsGen
/-!
# C03 — Every JSON document Go emits inhabits the generated TypeScript type

`inhabits` (Gomacro/TsGen.lean) is the structural semantics of the emitted types: exact objects,
erased brands, `Record<K,V>`, tuples, literal unions.  The theorems below are the compositional
steps of the inhabitation argument — one per type constructor the generator emits — for every
environment, value and document; the end-to-end statement for a whole program is evaluated by the
same `inhabits` on every real document of the correspondence run (the TS semantics is trusted:
no TypeScript compiler exists in the sandbox).
-/
namespace Gomacro.TsGen
open List Gomacro.IR Gomacro.GoJson

variable (tenv : List (String × TsType))

/-! `inhabits` at a successor fuel, one equation per constructor the generator emits; each is the
defining clause, so later proofs never unfold the whole seventeen-way match. -/
section equations
variable (f : Nat)
theorem inhabits_null : inhabits tenv (f + 1) .null .null = true := rfl
theorem inhabits_litStr (s s' : String) : inhabits tenv (f + 1) (.litStr s) (.str s') = (s == s') := rfl
theorem inhabits_arr (e : TsType) (l : List JVal) :
    inhabits tenv (f + 1) (.arr e) (.arr l) = l.all fun x => inhabits tenv f e x := rfl
theorem inhabits_tuple (es : List TsType) (l : List JVal) :
    inhabits tenv (f + 1) (.tuple es) (.arr l) =
      (es.length == l.length && (es.zip l).all fun (e, x) => inhabits tenv f e x) := rfl
theorem inhabits_record (k v : TsType) (kvs : List (String × JVal)) :
    inhabits tenv (f + 1) (.record k v) (.obj kvs) =
      kvs.all fun (key, x) => keyParses tenv f k key && inhabits tenv f v x := rfl
theorem inhabits_union (ts : List TsType) (j : JVal) :
    inhabits tenv (f + 1) (.union ts) j = ts.any fun t => inhabits tenv f t j := rfl
theorem inhabits_obj (fs : List (String × TsType)) (kvs : List (String × JVal)) :
    inhabits tenv (f + 1) (.obj fs) (.obj kvs) =
      ((fs.all fun (k, t) => match kvs.lookup k with | some x => inhabits tenv f t x | none => false) &&
       (kvs.all fun (k, _) => fs.any fun (k', _) => k' == k)) := rfl
theorem inhabits_ref (n : String) (j : JVal) :
    inhabits tenv (f + 1) (.ref n) j =
      (match tenv.lookup n with | some t => inhabits tenv f t j | none => false) := rfl
theorem inhabits_brand (b : TsType) (tag : String) (j : JVal) :
    inhabits tenv (f + 1) (.brand b tag) j = inhabits tenv f b j := rfl
end equations

/-- `( T | null)`, the shape of every reference to a slice or a map -/
theorem inhabits_orNull (f : Nat) (t : TsType) (j : JVal) :
    inhabits tenv (f + 2) (.union [t, .null]) j =
      (inhabits tenv (f + 1) t j || inhabits tenv (f + 1) .null j) := by
  simp only [inhabits_union, List.any_cons, List.any_nil, Bool.or_false]

/-- **nil slices and nil maps**: Go writes `null`, and the generated reference type accepts it -/
theorem C03_nil_slice (f : Nat) (e : TsType) : inhabits tenv (f + 2) (.union [.arr e, .null]) .null = true := by
  rw [inhabits_orNull, inhabits_null, Bool.or_true]

theorem C03_nil_map (f : Nat) (k v : TsType) : inhabits tenv (f + 2) (.union [.record k v, .null]) .null = true := by
  rw [inhabits_orNull, inhabits_null, Bool.or_true]

/-- **slices**: an array all of whose elements inhabit the element type inhabits `( T[] | null)` -/
theorem C03_slice (f : Nat) (e : TsType) (l : List JVal) (h : ∀ x ∈ l, inhabits tenv f e x = true) :
    inhabits tenv (f + 2) (.union [.arr e, .null]) (.arr l) = true := by
  rw [inhabits_orNull, inhabits_arr, List.all_eq_true.mpr h, Bool.true_or]

/-- **fixed arrays**: tuple aliases accept exactly the arrays of the declared length -/
theorem C03_tuple_length (f : Nat) (es : List TsType) (l : List JVal)
    (h : inhabits tenv (f + 1) (.tuple es) (.arr l) = true) : l.length = es.length := by
  rw [inhabits_tuple, Bool.and_eq_true, beq_iff_eq] at h
  exact h.1.symm

theorem C03_tuple_wrong_length (f : Nat) (es : List TsType) (l : List JVal) (h : l.length ≠ es.length) :
    inhabits tenv (f + 1) (.tuple es) (.arr l) = false :=
  Bool.eq_false_iff.mpr fun hi => h (C03_tuple_length tenv f es l hi)

/-- **maps**: an object whose keys read at the key type and whose values inhabit the element type -/
theorem C03_map (f : Nat) (k v : TsType) (kvs : List (String × JVal))
    (h : ∀ p ∈ kvs, keyParses tenv f k p.1 = true ∧ inhabits tenv f v p.2 = true) :
    inhabits tenv (f + 2) (.union [.record k v, .null]) (.obj kvs) = true := by
  rw [inhabits_orNull, inhabits_record, List.all_eq_true.mpr fun p hp => Bool.and_eq_true _ _ ▸ h p hp,
    Bool.true_or]

/-- **brands** (`Int`, `Time`, `Date_`, named integers) are erased: same inhabitants as the base -/
theorem C03_brand (f : Nat) (b : TsType) (tag : String) (j : JVal) :
    inhabits tenv (f + 1) (.brand b tag) j = inhabits tenv f b j :=
  inhabits_brand tenv f b tag j

/-- **names**: a reference has the inhabitants of the declaration it resolves to -/
theorem C03_ref (f : Nat) (n : String) (t : TsType) (j : JVal) (h : tenv.lookup n = some t) :
    inhabits tenv (f + 1) (.ref n) j = inhabits tenv f t j := by
  rw [inhabits_ref, h]

/-- an undeclared name has no inhabitant (so a non-closed output is never satisfied) -/
theorem C03_undeclared_ref (f : Nat) (n : String) (j : JVal) (h : tenv.lookup n = none) :
    inhabits tenv (f + 1) (.ref n) j = false := by
  rw [inhabits_ref, h]

/-- **structs**: objects are exact — every declared property present with an inhabitant, no other key -/
theorem C03_object_exact (f : Nat) (fs : List (String × TsType)) (kvs : List (String × JVal)) :
    inhabits tenv (f + 1) (.obj fs) (.obj kvs) = true ↔
      ((∀ p ∈ fs, ∃ x, kvs.lookup p.1 = some x ∧ inhabits tenv f p.2 x = true) ∧
       (∀ q ∈ kvs, ∃ p ∈ fs, p.1 = q.1)) := by
  simp only [inhabits_obj, Bool.and_eq_true, List.all_eq_true, List.any_eq_true, beq_iff_eq]
  refine and_congr_left' (forall₂_congr fun p _ => ?_)
  cases kvs.lookup p.1 <;> simp

/-- a missing property (what `omitempty` produces) is refused — recorded finding, as a theorem -/
theorem C03_missing_property_refused (f : Nat) (k : String) (t : TsType) (fs : List (String × TsType))
    (kvs : List (String × JVal)) (h : kvs.lookup k = none) :
    inhabits tenv (f + 1) (.obj ((k, t) :: fs)) (.obj kvs) = false := by
  simp only [inhabits_obj, List.all_cons, h, Bool.false_and]

/-- a wrapped document against a union declaration: some member has this Kind and accepts the Data -/
theorem inhabits_kindUnion (f : Nat) (ms : List (String × String × TsType)) (k : String) (d : JVal) :
    inhabits tenv (f + 3)
      (.union (ms.map fun (_, l, dt) => .obj [("Kind", .litStr l), ("Data", dt)]))
      (.obj [("Data", d), ("Kind", .str k)]) =
    ms.any fun m => m.2.1 == k && inhabits tenv (f + 1) m.2.2 d := by
  simp [inhabits_union, any_map, Function.comp_def, inhabits_obj, inhabits_litStr, List.lookup,
    Bool.and_comm]

/-- **unions**: `{"Kind": m, "Data": d}` inhabits the union type as soon as `d` inhabits the
declared type of member `m` -/
theorem C03_union_member (f : Nat) (ms : List (String × String × TsType)) (tn lname : String)
    (data : TsType) (d : JVal) (hm : (tn, lname, data) ∈ ms) (hd : inhabits tenv (f + 1) data d = true) :
    inhabits tenv (f + 3)
      (.union (ms.map fun (_, l, dt) => .obj [("Kind", .litStr l), ("Data", dt)]))
      (.obj [("Data", d), ("Kind", .str lname)]) = true := by
  rw [inhabits_kindUnion, any_eq_true]
  exact ⟨_, hm, by simp [hd]⟩

/-- an unknown Kind inhabits no alternative -/
theorem C03_unknown_kind (f : Nat) (ms : List (String × String × TsType)) (k : String) (d : JVal)
    (h : ∀ m ∈ ms, m.2.1 ≠ k) :
    inhabits tenv (f + 3)
      (.union (ms.map fun (_, l, dt) => .obj [("Kind", .litStr l), ("Data", dt)]))
      (.obj [("Data", d), ("Kind", .str k)]) = false := by
  rw [inhabits_kindUnion, any_eq_false]
  exact fun m hm => by simp [h m hm]

/-- **enums**: the enum type is the union of its members' literals; a member's value inhabits it -/
theorem C03_enum_member (f : Nat) (lits : List TsType) (lit : TsType) (j : JVal) (hm : lit ∈ lits)
    (hl : inhabits tenv f lit j = true) : inhabits tenv (f + 1) (.union lits) j = true := by
  rw [inhabits_union, List.any_eq_true]
  exact ⟨lit, hm, hl⟩

/-- **well-formed output**: when `closedOnce` holds every name mentioned by a declared type is
declared, and no name is declared twice -/
theorem C03_closed (decls : List (String × TsDecl)) (h : closedOnce decls = true) :
    let byId := decls.foldl (fun acc (p : String × TsDecl) => if acc.any (·.1 == p.1) then acc else acc ++ [p]) []
    (∀ p ∈ tsEnvOf byId, ∀ n ∈ tyNames p.2, n ∈ (tsEnvOf byId).map (·.1)) ∧
    ((tsEnvOf byId).map (·.1)).eraseDups.length = ((tsEnvOf byId).map (·.1)).length := by
  intro byId
  have h' := Bool.and_eq_true_iff.mp h
  exact ⟨fun p hp n hn => List.contains_iff_mem.mp (List.all_eq_true.mp (List.all_eq_true.mp h'.1 p hp) n hn),
    beq_iff_eq.mp h'.2⟩

end Gomacro.TsGen
