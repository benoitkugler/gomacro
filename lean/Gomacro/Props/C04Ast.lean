import Gomacro.PgAst
import Gomacro.Props.C04
import Gomacro.Props.C04E2E
import Gomacro.Lemmas.MapM
import Std.Data.String.ToInt
/-!
# C04: the syntax of the generated validators means what the template-level semantics says

`C04_ast_refines`: on a script of well-formed template instances, every verdict of the
template-level semantics `PgGen.call` (about which `Props/C04.lean` and `Props/C04E2E.lean` are
stated) is the verdict of the plpgsql-fragment semantics `PgAst.evalFunc` on the syntax trees
`PgAst.astOf` of the same functions. The driver parses the REAL text of every validator
(`PgParse`), compares the tree with `astOf` of the model's function, and evaluates the real trees
on real documents: a changed template is judged on documents.
-/
namespace Gomacro.PgAst
open Gomacro.GoJson Gomacro.PgGen

theorem q_inj (a b : String) : q a = q b ↔ a = b := by
  constructor
  · intro h
    have := congrArg String.toList h
    simp only [q, String.toList_append] at this
    exact String.toList_inj.mp (List.append_cancel_left (List.append_cancel_right this))
  · intro h; rw [h]

theorem q_beq (a b : String) : (q a == q b) = (a == b) := by
  rw [Bool.eq_iff_iff]
  simp only [beq_iff_eq]
  exact q_inj a b

theorem astOf_name (f : PgFunc) : (astOf f).name = f.name := by cases f <;> rfl

theorem find_map (script : List PgFunc) (fn : String) :
    (script.map astOf).find? (·.name == fn) = (lookupFunc script fn).map astOf := by
  rw [List.find?_map, lookupFunc]
  exact congrArg (fun p => (script.find? p).map astOf) (funext fun f => congrArg (· == fn) (astOf_name f))

/-- `jsonb_typeof` of each kind of document against the names the templates test for. Deciding an
equation between string literals is slow and every guard of every template asks one: they are
decided here, once per name -/
theorem typeOf_null (j : JVal) : (typeOf j == "null") = (match j with | .null => true | _ => false) := by
  cases j <;> simp only [typeOf, String.reduceBEq]
theorem typeOf_number (j : JVal) : (typeOf j == "number") = (match j with | .num _ => true | _ => false) := by
  cases j <;> simp only [typeOf, String.reduceBEq]
theorem typeOf_string (j : JVal) : (typeOf j == "string") = (match j with | .str _ => true | _ => false) := by
  cases j <;> simp only [typeOf, String.reduceBEq]
theorem typeOf_array (j : JVal) : (typeOf j == "array") = (match j with | .arr _ => true | _ => false) := by
  cases j <;> simp only [typeOf, String.reduceBEq]
theorem typeOf_object (j : JVal) : (typeOf j == "object") = (match j with | .obj _ => true | _ => false) := by
  cases j <;> simp only [typeOf, String.reduceBEq]

variable (callF : String → Option JVal → Option Tri)

/-! ### expressions

The expressions of the templates are jsonb-valued or boolean-valued; `asJb` / `asBool` read the value
of either kind, and each shape of expression has its equation in these terms. An operand without a
value or with a value of another kind is an error on both sides: the `rfl` cases of each proof. -/

/-- the jsonb value of an expression (`some none`: SQL NULL) -/
def asJb : Option SVal → Option (Option JVal)
  | some (.jb j) => some j
  | _ => none

theorem asBool_map {α} (f : α → Tri) (o : Option α) : asBool (o.map fun a => .bool (f a)) = o.map f := by
  cases o <;> rfl
theorem asBool_map_bool (o : Option Tri) : asBool (o.map SVal.bool) = o := by cases o <;> rfl
theorem asBool_some_bool (t : Tri) : asBool (some (SVal.bool t)) = some t := rfl
attribute [simp] asBool_map_bool asBool_some_bool

theorem asJb_data (arg : Option JVal) : asJb (evalExpr callF [("data", .jb arg)] data) = some arg := by
  simp only [data, evalExpr, List.lookup, beq_self_eq_true, asJb]

/-- `arg->'k'` -/
def getKey (arg : Option JVal) (k : String) : Option JVal :=
  match arg with
  | some (.obj kvs) => kvs.lookup k
  | _ => none

theorem asJb_arrow (env : List (String × SVal)) (e : Expr) (k : String) :
    asJb (evalExpr callF env (.arrow e k)) = (asJb (evalExpr callF env e)).map (getKey · k) := by
  rw [evalExpr]
  rcases evalExpr callF env e with _ | ((_ | j) | _ | _ | _ | _) <;> try rfl
  cases j <;> rfl

theorem typeTri_some (j : JVal) (k : String) : typeTri (some j) k = Tri.ofBool (typeOf j == k) := rfl

theorem asBool_typeIs (env : List (String × SVal)) (e : Expr) (k : String) :
    asBool (evalExpr callF env (typeIs e k)) = (asJb (evalExpr callF env e)).map (typeTri · k) := by
  rw [typeIs, evalExpr, evalExpr, evalExpr]
  rcases evalExpr callF env e with _ | ((_ | j) | _ | _ | _ | _)
  case some.jb.some => exact congrArg (fun b => some (Tri.ofBool b)) ((q_beq _ _).trans (Bool.beq_comm ..))
  all_goals rfl

theorem asBool_ne (env : List (String × SVal)) (a b : Expr) :
    asBool (evalExpr callF env (.ne a b)) = (asBool (evalExpr callF env (.eq a b))).map Tri.not := by
  simp only [evalExpr]
  cases evalExpr callF env a with
  | none => rfl
  | some x =>
    cases evalExpr callF env b with
    | none => rfl
    | some y => exact (asBool_map Tri.not (sqlEq x y)).trans (congrArg _ (asBool_map_bool _).symm)

theorem asBool_typeIsNot (env : List (String × SVal)) (e : Expr) (k : String) :
    asBool (evalExpr callF env (typeIsNot e k)) = (asJb (evalExpr callF env e)).map fun j => Tri.not (typeTri j k) := by
  rw [typeIsNot, asBool_ne, ← typeIs, asBool_typeIs, Option.map_map]; rfl

/-- `AND` / `OR` go from left to right and stop at FALSE / TRUE -/
theorem asBool_and (env : List (String × SVal)) (a b : Expr) :
    asBool (evalExpr callF env (.and a b)) =
      (asBool (evalExpr callF env a)).bind fun x =>
        if x = .ff then some .ff else (asBool (evalExpr callF env b)).map (Tri.and x) := by
  simp only [evalExpr]
  cases asBool (evalExpr callF env a) with
  | none => rfl
  | some x => cases x <;> cases asBool (evalExpr callF env b) <;> rfl

theorem asBool_or (env : List (String × SVal)) (a b : Expr) :
    asBool (evalExpr callF env (.or a b)) =
      (asBool (evalExpr callF env a)).bind fun x =>
        if x = .tt then some .tt else (asBool (evalExpr callF env b)).map (Tri.or x) := by
  simp only [evalExpr]
  cases asBool (evalExpr callF env a) with
  | none => rfl
  | some x => cases x <;> cases asBool (evalExpr callF env b) <;> rfl

/-- stopping early changes nothing when the right operand has a value -/
theorem or_ite (x y : Tri) : (if x = .tt then some .tt else some (Tri.or x y)) = some (Tri.or x y) := by
  cases x <;> rfl

theorem eval_call (env : List (String × SVal)) (f : String) (a : Expr) :
    evalExpr callF env (.call f a) = (asJb (evalExpr callF env a)).bind fun j => (callF f j).map .bool := by
  rw [evalExpr]
  cases evalExpr callF env a with
  | none => rfl
  | some v => cases v <;> rfl

theorem eval_call_value (env : List (String × SVal)) (f : String) (x : JVal) :
    evalExpr callF (("value", .jb (some x)) :: env) (.call f (.var "value")) = (callF f (some x)).map .bool := by
  simp only [evalExpr, List.lookup, beq_self_eq_true]

theorem eval_call_value_each (env : List (String × SVal)) (f : String) (k : String) (x : JVal) :
    evalExpr callF (("key", .txt (some k)) :: ("value", .jb (some x)) :: env) (.call f (.var "value")) = (callF f (some x)).map .bool := by
  simp only [evalExpr, List.lookup, String.reduceBEq, beq_self_eq_true]

/-- `bool_and` of a body over the rows of `jsonb_array_elements` / `jsonb_each`: NULL on SQL NULL
(no row), an error on a document of another kind -/
theorem asBool_allElems (env : List (String × SVal)) (body src : Expr) :
    asBool (evalExpr callF env (.allElems body src)) =
      (asJb (evalExpr callF env src)).bind fun
        | none => some .nul
        | some (.arr l) => (l.mapM fun x => asBool (evalExpr callF (("value", .jb (some x)) :: env) body)).map boolAnd
        | some _ => none := by
  rw [evalExpr]
  rcases evalExpr callF env src with _ | ((_ | j) | _ | _ | _ | _) <;> try rfl
  cases j with
  | arr l => exact asBool_map boolAnd _
  | _ => rfl

theorem asBool_allEach (env : List (String × SVal)) (body src : Expr) :
    asBool (evalExpr callF env (.allEach body src)) =
      (asJb (evalExpr callF env src)).bind fun
        | none => some .nul
        | some (.obj kvs) => (kvs.mapM fun (p : String × JVal) =>
            asBool (evalExpr callF (("key", .txt (some p.1)) :: ("value", .jb (some p.2)) :: env) body)).map boolAnd
        | some _ => none := by
  rw [evalExpr]
  rcases evalExpr callF env src with _ | ((_ | j) | _ | _ | _ | _) <;> try rfl
  cases j with
  | obj kvs => exact asBool_map boolAnd _
  | _ => rfl

theorem toString_len (n : Nat) (m : Int) : (toString m == toString n) = ((n : Int) == m) := by
  rw [Bool.eq_iff_iff, beq_iff_eq, beq_iff_eq]
  exact ⟨fun h => ((Int.repr_inj (a := m) (b := n)).mp h).symm, fun h => h ▸ rfl⟩

/-- `jsonb_array_length(e) = m`, the literal `raw` being the decimal text of `m` -/
theorem asBool_arrLen_eq (env : List (String × SVal)) (e : Expr) (raw : String) (m : Int) (hr : raw = toString m) :
    asBool (evalExpr callF env (.eq (.arrLen e) (.lit raw))) =
      (asJb (evalExpr callF env e)).bind fun
        | none => some .nul
        | some (.arr l) => some (Tri.ofBool ((l.length : Int) == m))
        | some _ => none := by
  subst hr
  simp only [evalExpr]
  rcases evalExpr callF env e with _ | ((_ | j) | _ | _ | _ | _) <;> try rfl
  cases j with
  | arr l => exact congrArg (fun b => some (Tri.ofBool b)) (toString_len l.length m)
  | _ => rfl

/-- `data->>'Kind'` on an object whose Kind is a string (`ko = some k`) or missing (`ko = none`) -/
theorem eval_kindText (env : List (String × SVal)) (kvs : List (String × JVal)) (ko : Option String)
    (hd : evalExpr callF env data = some (.jb (some (.obj kvs)))) (hK : kvs.lookup "Kind" = ko.map .str) :
    evalExpr callF env (.arrowText data "Kind") = some (.txt ko) := by
  simp only [evalExpr, hd, hK]
  cases ko <;> rfl

/-! ### statements: what `runFunc` makes of a body -/

def Res.tri : Res → Option Tri
  | .ret (.bool t) => some t
  | _ => none

theorem runFunc_tri (fd : Func) (arg : Option JVal) :
    runFunc callF fd arg =
      (evalDecls callF [("data", .jb arg)] fd.decls).bind fun env => (execBlock callF env fd.body).tri := by
  simp only [runFunc]
  cases evalDecls callF [("data", .jb arg)] fd.decls with
  | none => rfl
  | some env =>
    cases execBlock callF env fd.body with
    | ret v => cases v <;> rfl
    | _ => rfl

/-- a template without declarations runs its body on `data` alone -/
theorem runFunc_body (fn : String) (body : Block) (arg : Option JVal) :
    runFunc callF ⟨fn, [], body⟩ arg = (execBlock callF [("data", .jb arg)] body).tri := by
  rw [runFunc_tri]; rfl

/-- `DECLARE v boolean;` starts `v` as SQL NULL -/
theorem runFunc_null_decl (fn v : String) (body : Block) (arg : Option JVal) :
    runFunc callF ⟨fn, [(v, none)], body⟩ arg =
      (execBlock callF [(v, .bool .nul), ("data", .jb arg)] body).tri := by
  rw [runFunc_tri]; rfl

theorem tri_ret (env : List (String × SVal)) (e : Expr) (rest : List Stmt) :
    (execBlock callF env (blk (.ret e :: rest))).tri = asBool (evalExpr callF env e) := by
  simp only [blk, execBlock, execStmt]
  cases evalExpr callF env e with
  | none => rfl
  | some v => cases v <;> rfl

/-- `IF c THEN RETURN e; END IF;` -/
theorem tri_guard (env : List (String × SVal)) (c e : Expr) (rest : List Stmt) :
    (execBlock callF env (blk (.ifThen c (blk [.ret e]) .nil :: rest))).tri =
      (asBool (evalExpr callF env c)).bind fun t =>
        if t = .tt then asBool (evalExpr callF env e) else (execBlock callF env (blk rest)).tri := by
  simp only [blk, execBlock, execStmt]
  cases asBool (evalExpr callF env c) with
  | none => rfl
  | some t =>
    cases t <;> try rfl
    cases evalExpr callF env e with
    | none => rfl
    | some v => cases v <;> rfl

theorem tri_assign_ret (env : List (String × SVal)) (v : String) (e : Expr) :
    (execBlock callF env (blk [.assign v e, .ret (.var v)])).tri = asBool (evalExpr callF env e) := by
  simp only [blk, execBlock, execStmt]
  cases evalExpr callF env e with
  | none => rfl
  | some x => simp only [evalExpr, List.lookup, beq_self_eq_true]; cases x <;> rfl

theorem tri_case (env : List (String × SVal)) (arms : Arms) (els : Block) :
    (execBlock callF env (blk [.case arms els])).tri =
      (execArms callF env arms).elim (execBlock callF env els).tri Res.tri := by
  simp only [blk, execBlock, execStmt]
  cases execArms callF env arms with
  | none => cases execBlock callF env els <;> rfl
  | some r => cases r <;> rfl

/-- `DECLARE is_valid boolean := e; BEGIN IF NOT is_valid THEN RAISE …; END IF; RETURN is_valid; END` -/
theorem run_decl_valid (fn : String) (e : Expr) (arg : Option JVal) :
    runFunc callF ⟨fn, [("is_valid", some e)], blk [.ifThen (.not (.var "is_valid")) (blk [.raise]) .nil, .ret (.var "is_valid")]⟩ arg =
      asBool (evalExpr callF [("data", .jb arg)] e) := by
  rw [runFunc_tri]
  simp only [evalDecls]
  cases evalExpr callF [("data", .jb arg)] e with
  | none => rfl
  | some x =>
    cases x with
    | bool t => cases t <;> rfl
    | _ => rfl

/-! ### the templates, one by one -/

variable (cF : String → Option JVal → Option Tri) (hC : ∀ fn a r, cF fn a = some r → callF fn a = some r)

include hC in
theorem map_mapM_refines {α β} (g : α → String × Option JVal) (φ : List Tri → β) (l : List α) (r : β)
    (h : (l.mapM fun x => cF (g x).1 (g x).2).map φ = some r) :
    (l.mapM fun x => callF (g x).1 (g x).2).map φ = some r := by
  obtain ⟨rs, hrs, rfl⟩ := Option.map_eq_some_iff.mp h
  rw [List.mapM_refines (fun x r h => hC _ _ r h) hrs]; rfl

include hC in
/-- a verdict of one template instance stays when the functions it calls answer more often -/
theorem step_mono (fd : PgFunc) (arg : Option JVal) (r : Tri) (h : step cF fd arg = some r) :
    step callF fd arg = some r := by
  cases arg with
  | none =>
    cases fd with
    | struct _ fields => exact map_mapM_refines callF cF hC (fun p : String × String => (p.2, none)) _ fields r h
    | _ => exact h
  | some j =>
    cases fd with
    | basic => exact h
    | enum => exact h
    | array _ e len =>
      cases j with
      | arr l =>
        revert h
        simp only [step]
        split
        · exact id
        · exact map_mapM_refines callF cF hC (fun x => (e, some x)) _ l r
      | _ => exact h
    | map _ e =>
      cases j with
      | obj kvs => exact map_mapM_refines callF cF hC (fun p : String × JVal => (e, some p.2)) _ kvs r h
      | _ => exact h
    | struct _ fields =>
      cases j with
      | obj kvs => exact map_mapM_refines callF cF hC (fun p : String × String => (p.2, kvs.lookup p.1)) _ fields r h
      | _ => exact h
    | union _ cs =>
      cases j with
      | obj kvs =>
        revert h
        simp only [step]
        split
        · split
          · exact id
          · split
            · exact hC _ _ r
            · exact id
        · exact id
        · exact id
      | _ => exact h

theorem run_basic' (fn kind : String) (arg : Option JVal) :
    runFunc callF (astOf (.basic fn kind)) arg = step cF (.basic fn kind) arg := by
  rw [astOf, run_decl_valid, asBool_typeIs, asJb_data]
  cases arg <;> rfl

theorem run_enum (fn kind : String) (isInt : Bool) (tuple : List String) (tid : String) (arg : Option JVal)
    (hw : wf (.enum fn kind isInt tuple tid) = true) :
    runFunc callF (astOf (.enum fn kind isInt tuple tid)) arg = step cF (.enum fn kind isInt tuple tid) arg := by
  have hd : evalExpr callF [("data", SVal.jb arg)] data = some (.jb arg) := rfl
  have hk : kind = (if isInt then "number" else "string") := eq_of_beq hw
  rw [astOf, run_decl_valid, asBool_and, asBool_typeIs, asJb_data]
  cases arg with
  | none => cases isInt <;> simp only [evalExpr, hd, if_true, Bool.false_eq_true, if_false] <;> rfl
  | some j =>
    subst hk
    -- the cast / the text of `data` is only reached when the kind is right (AND stops at FALSE)
    cases isInt
    · simp only [Option.map_some, typeTri_some, Bool.false_eq_true, if_false, typeOf_string, step, evalExpr, hd]
      cases j with
      | str s =>
        simp only [enumItemMatches, Bool.not_false, Bool.true_and, q]
        generalize tuple.any _ = b; cases b <;> rfl
      | _ => rfl
    · simp only [Option.map_some, typeTri_some, if_true, typeOf_number, step, evalExpr, hd]
      cases j with
      | num r =>
        simp only [enumItemMatches, Bool.true_and]
        generalize tuple.any _ = b; cases b <;> rfl
      | _ => rfl

/-- the array, map and union templates mean exactly their `step` (the struct template only refines
it: its chain of ANDs stops at the first FALSE, `step` calls every field validator) -/
theorem run_array_eq (fn elemFn : String) (len : Int) (arg : Option JVal)
    (hw : wf (.array fn elemFn len) = true) :
    runFunc callF (astOf (.array fn elemFn len)) arg = step callF (.array fn elemFn len) arg := by
  have hlen : len ≥ -1 := of_decide_eq_true hw
  by_cases hm : len = -1
  · subst hm
    simp only [astOf, beq_self_eq_true, if_true, show ¬ ((-1 : Int) ≥ 0) by decide, if_false,
      List.cons_append, List.nil_append]
    rw [runFunc_body, tri_guard, tri_guard, tri_guard, tri_ret, asBool_typeIs, asBool_typeIsNot,
      asBool_arrLen_eq callF _ _ "0" 0 rfl, asBool_allElems, asJb_data]
    cases arg with
    | none => rfl
    | some j =>
      simp only [Option.map_some, Option.bind_some, typeTri_some, typeOf_null, typeOf_array]
      cases j with
      | arr l =>
        simp only [step, eval_call_value, asBool_map_bool]
        cases l with
        | nil => rfl
        | cons x xs =>
          have : ((((x :: xs).length : Nat) : Int) == 0) = false := by simp; omega
          simp only [this]
          cases (x :: xs).mapM fun x => callF elemFn (some x) <;> rfl
      | _ => rfl
  · have hpos : len ≥ 0 := by omega
    have hm' : (len == -1) = false := by simpa using hm
    simp only [astOf, hm', hpos, if_true, Bool.false_eq_true, if_false, List.cons_append,
      List.nil_append, List.append_nil]
    rw [runFunc_body, tri_guard, tri_ret, asBool_and, asBool_typeIsNot, asBool_allElems,
      asBool_arrLen_eq callF _ _ _ len rfl, asJb_data]
    cases arg with
    | none => rfl
    | some j =>
      simp only [Option.map_some, Option.bind_some, typeTri_some, typeOf_array]
      cases j with
      | arr l =>
        simp only [step, eval_call_value, asBool_map_bool, hm', hpos, Bool.false_and, Bool.false_eq_true, if_true, if_false]
        cases l.mapM fun x => callF elemFn (some x) with
        | none => rfl
        | some rs => simp only [Option.map_some]; cases boolAnd rs <;> rfl
      | _ => simp only [step, hm', Bool.false_eq_true, if_false]; rfl

theorem run_map_eq (fn elemFn : String) (arg : Option JVal) :
    runFunc callF (astOf (.map fn elemFn)) arg = step callF (.map fn elemFn) arg := by
  rw [astOf, runFunc_body, tri_guard, tri_ret, asBool_and, asBool_typeIs, asBool_typeIs, asBool_allEach, asJb_data]
  cases arg with
  | none => rfl
  | some j =>
    simp only [Option.map_some, Option.bind_some, typeTri_some, typeOf_null, typeOf_object]
    cases j with
    | obj kvs =>
      simp only [step, eval_call_value_each, asBool_map_bool]
      cases kvs.mapM fun (p : String × JVal) => callF elemFn (some p.2) <;> rfl
    | _ => rfl

/-- a text against the token of a text literal -/
theorem asBool_eq_text (env : List (String × SVal)) (e : Expr) (k : String) (ko : Option String)
    (he : evalExpr callF env e = some (.txt ko)) :
    asBool (evalExpr callF env (.eq e (.lit (q k)))) = some (ko.elim .nul fun s => Tri.ofBool (s == k)) := by
  rw [evalExpr, he, evalExpr]
  cases ko with
  | none => rfl
  | some s => exact congrArg (fun b => some (Tri.ofBool b)) ((q_beq _ _).trans (Bool.beq_comm ..))

/-- `CASE WHEN data->>'Kind' = 'k' THEN RETURN f(data->'Data'); … ELSE RETURN false; END CASE` calls the
validator of the document's Kind, as `data->>'Kind'` reads it (`ko = none`: SQL NULL, no arm) -/
theorem tri_arms (env : List (String × SVal)) (ko : Option String) (darg : Option JVal)
    (hk : evalExpr callF env (.arrowText data "Kind") = some (.txt ko))
    (hdata : asJb (evalExpr callF env (.arrow data "Data")) = some darg) (cases : List (String × String)) :
    (execBlock callF env (blk [.case (armsOf cases) (blk [.ret .fls])])).tri =
      (ko.bind fun k => cases.lookup k).elim (some .ff) fun vf => callF vf darg := by
  rw [tri_case]
  induction cases with
  | nil => cases ko <;> rfl
  | cons p rest ih =>
    rw [armsOf, execArms, asBool_eq_text callF env _ p.1 ko hk]
    cases ko with
    | none => exact ih
    | some k =>
      simp only [Option.elim, Tri.ofBool, List.lookup, Option.bind_some] at ih ⊢
      cases k == p.1
      · exact ih
      · simp only [if_true, blk, execBlock, execStmt, eval_call, hdata, Option.bind_some]
        cases callF p.2 darg <;> rfl

theorem run_union_eq (fn : String) (cases : List (String × String)) (arg : Option JVal) :
    runFunc callF (astOf (.union fn cases)) arg = step callF (.union fn cases) arg := by
  have hD : asJb (evalExpr callF [("data", .jb arg)] (.arrow data "Data")) = some (getKey arg "Data") := by
    rw [asJb_arrow, asJb_data]; rfl
  rw [astOf, runFunc_body, tri_guard, asBool_or, asBool_or, asBool_typeIsNot, asBool_typeIsNot,
    asBool_typeIs, asJb_arrow, asJb_arrow, asJb_data]
  simp only [Option.map_some, Option.bind_some, or_ite]
  cases arg with
  | none => rw [tri_arms callF _ none _ rfl hD cases]; rfl
  | some j =>
    simp only [typeTri_some, typeOf_object]
    cases j with
    | obj kvs =>
      cases hK : kvs.lookup "Kind" with
      | none =>
        rw [tri_arms callF _ none _ (eval_kindText callF _ kvs none rfl hK) hD cases]
        simp only [step, hK]
        exact ite_self _  -- no arm: FALSE whether the guard fires or not
      | some kv =>
        simp only [step, getKey, hK, typeTri_some, typeOf_string]
        cases kv with
        | str k =>
          rw [tri_arms callF _ (some k) _ (eval_kindText callF _ kvs (some k) rfl hK) hD cases]
          simp only [Option.bind_some, getKey]
          cases cases.lookup k with
          | none => exact (ite_self _).trans (ite_self _).symm
          | some vf =>
            cases kvs.lookup "Data" with
            | none => rfl
            | some dv => simp only [typeTri_some, typeOf_null]; cases dv <;> rfl
        | _ => rfl
    | _ => rfl

include hC in
theorem run_array (fn elemFn : String) (len : Int) (arg : Option JVal) (r : Tri)
    (hw : wf (.array fn elemFn len) = true) (hs : step cF (.array fn elemFn len) arg = some r) :
    runFunc callF (astOf (.array fn elemFn len)) arg = some r := by
  rw [run_array_eq callF fn elemFn len arg hw]; exact step_mono callF cF hC _ _ _ hs

include hC in
theorem run_map (fn elemFn : String) (arg : Option JVal) (r : Tri)
    (hs : step cF (.map fn elemFn) arg = some r) :
    runFunc callF (astOf (.map fn elemFn)) arg = some r := by
  rw [run_map_eq]; exact step_mono callF cF hC _ _ _ hs

include hC in
theorem run_union (fn : String) (cases : List (String × String)) (arg : Option JVal) (r : Tri)
    (hs : step cF (.union fn cases) arg = some r) :
    runFunc callF (astOf (.union fn cases)) arg = some r := by
  rw [run_union_eq]; exact step_mono callF cF hC _ _ _ hs

/-! ### structs -/

theorem eval_fieldChain (env : List (String × SVal)) (arg : Option JVal)
    (hd : asJb (evalExpr callF env data) = some arg) :
    ∀ (fields : List (String × String)) (base : Expr) (x : Tri) (rs : List Tri),
      asBool (evalExpr callF env base) = some x →
      (fields.mapM fun (p : String × String) => callF p.2 (getKey arg p.1)) = some rs →
      asBool (evalExpr callF env (fields.foldl (fun acc (p : String × String) => .and acc (.call p.2 (.arrow data p.1))) base)) =
        some (rs.foldl Tri.and x)
  | [], base, x, rs, hb, hm => by
    cases (Option.some.inj hm : [] = rs); exact hb
  | p :: rest, base, x, rs, hb, hm => by
    obtain ⟨y, rs', hp, hr, rfl⟩ := List.mapM_cons_eq_some.mp hm
    refine eval_fieldChain env arg hd rest _ (Tri.and x y) rs' ?_ hr
    rw [asBool_and, hb, eval_call, asJb_arrow, hd]
    simp only [Option.map_some, Option.bind_some, hp]
    cases x <;> cases y <;> rfl

theorem eval_keysOk (env : List (String × SVal)) (fields : List (String × String)) (kvs : List (String × JVal))
    (hd : asJb (evalExpr callF env data) = some (some (.obj kvs))) :
    asBool (evalExpr callF env (.allEach (if fields.isEmpty then .tru else .inList (.var "key") (fields.map fun p => q p.1)) data)) =
      some (boolAnd (kvs.map fun (p : String × JVal) =>
        if fields.isEmpty || fields.any (·.1 == p.1) then Tri.tt else Tri.ff)) := by
  have row (p : String × JVal) : asBool (evalExpr callF (("key", .txt (some p.1)) :: ("value", .jb (some p.2)) :: env)
      (if fields.isEmpty then .tru else .inList (.var "key") (fields.map fun p => q p.1))) =
      some (if fields.isEmpty || fields.any (·.1 == p.1) then Tri.tt else Tri.ff) := by
    cases fields.isEmpty
    · simp only [Bool.false_eq_true, if_false, evalExpr, List.lookup, beq_self_eq_true, asBool_some_bool,
        Bool.false_or, List.any_map, Function.comp_def, q_beq]
      rfl
    · rfl
  rw [asBool_allEach, hd]
  simp only [Option.bind_some, row, List.mapM_some_fun, Option.map_some]

include hC in
theorem run_struct (fn : String) (fields : List (String × String)) (arg : Option JVal) (r : Tri)
    (hs : step cF (.struct fn fields) arg = some r) :
    runFunc callF (astOf (.struct fn fields)) arg = some r := by
  have hd : asJb (evalExpr callF [("is_valid", .bool .nul), ("data", .jb arg)] data) = some arg := rfl
  have hs := step_mono callF cF hC _ _ _ hs
  rw [astOf, runFunc_null_decl, tri_guard, tri_assign_ret, asBool_typeIsNot, hd]
  cases arg with
  | none =>
    obtain ⟨rs, hrs, rfl⟩ := Option.map_eq_some_iff.mp hs
    rw [eval_fieldChain callF _ none hd fields _ .nul rs (by rw [asBool_allEach, hd]; rfl) hrs]; rfl
  | some j =>
    simp only [Option.map_some, typeTri_some, typeOf_object]
    cases j with
    | obj kvs =>
      obtain ⟨rs, hrs, rfl⟩ := Option.map_eq_some_iff.mp hs
      rw [eval_fieldChain callF _ _ hd fields _ _ rs (eval_keysOk callF _ fields kvs hd) hrs]; rfl
    | _ => exact hs


/-! ### the refinement -/

include hC in
theorem run_template (fd : PgFunc) (arg : Option JVal) (r : Tri) (hw : wf fd = true)
    (hs : step cF fd arg = some r) : runFunc callF (astOf fd) arg = some r := by
  cases fd with
  | basic f kind => rw [run_basic' callF cF]; exact hs
  | enum f kind isInt tuple tid => rw [run_enum callF cF f kind isInt tuple tid arg hw]; exact hs
  | array f e len => exact run_array callF cF hC f e len arg r hw hs
  | map f e => exact run_map callF cF hC f e arg r hs
  | struct f fields => exact run_struct callF cF hC f fields arg r hs
  | union f cases => exact run_union callF cF hC f cases arg r hs

/-- **the syntax of the templates means what the template-level semantics says**: whenever
`PgGen.call` gives a verdict on a script of well-formed template instances, evaluating the syntax
trees of the same functions (`astOf`) with the semantics of the plpgsql fragment gives the same
verdict -/
theorem C04_ast_refines (script : List PgFunc) (hw : ∀ f ∈ script, wf f = true) :
    ∀ (n : Nat) (fn : String) (arg : Option JVal) (r : Tri),
      call script n fn arg = some r → evalFunc (script.map astOf) n fn arg = some r
  | 0, _, _, _, h => by cases h
  | n + 1, fn, arg, r, h => by
    rw [call_succ] at h
    rw [evalFunc, find_map]
    cases hl : lookupFunc script fn with
    | none => rw [hl] at h; cases h
    | some fd =>
      rw [hl] at h
      exact run_template _ _ (C04_ast_refines script hw n) fd arg r (hw fd (List.mem_of_find?_eq_some hl)) h

/-- the end-to-end acceptance theorem, on the syntax trees: the CHECK of a covered column, evaluated
by the semantics of the plpgsql fragment on the trees of the generated functions, admits the
document Go writes for every well-typed value -/
theorem C04_check_admits_ast (env : IR.Env) (w : GoJson.Wrappers) (script : List PgFunc) (ds : List IR.Decl)
    (h : E2ESql.fragmentSqlB env w script ds = true) (hw : ∀ f ∈ script, wf f = true) (n : Nat) (t : IR.Ty) (v : GoVal)
    (hin : E2E.TyIn ds t) (hh : ∀ s ∈ E2ESql.subTys t, E2ESql.scriptHas env script s = true) (hnu : E2E.noUnion env t = true)
    (hs : E2E.shapeOk t = true) (hl : E2ESql.lensOk t = true) (ht : E2E.hasType env n t v = true) :
    E2E.Eventually (fun m => admits (evalFunc (script.map astOf) m (fnName env t) (some (encode env w n false t v))) = true) := by
  have := E2ESql.C04_end_to_end script env w ds (E2ESql.fragmentSql_of_check script env w ds h) n t v hin hh hnu hs hl ht
  refine E2E.ev_mono this (fun m hm => ?_)
  obtain ⟨r, hr, hg⟩ := hm
  rw [C04_ast_refines script hw m _ _ r hr]
  rcases hg with rfl | rfl <;> rfl

/-- rejection transfers as well: what the template-level semantics refuses, the syntax refuses -/
theorem C04_reject_ast (script : List PgFunc) (hw : ∀ f ∈ script, wf f = true) (n : Nat) (fn : String) (doc : JVal)
    (h : call script n fn (some doc) = some .ff) :
    admits (evalFunc (script.map astOf) n fn (some doc)) = false := by
  rw [C04_ast_refines script hw n fn _ .ff h]; rfl

end Gomacro.PgAst
