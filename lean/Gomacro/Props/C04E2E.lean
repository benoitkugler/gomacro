import Gomacro.EndToEndSql
import Gomacro.Lemmas.Fragment
import Gomacro.Lemmas.Eventually
import Gomacro.Lemmas.MapM
import Gomacro.Props.C04
/-!
# C04, end to end (acceptance)

`C04_end_to_end` / `C04_check_admits`: for a program in the fragment (`EndToEndSql.FragmentSql`:
decidable, evaluated per program by the runner; the complement of the recorded findings of C04),
the validator generated for a type admits — TRUE or NULL, what a CHECK constraint lets through —
the document Go writes (model `GoJson.encode`) for every well-typed value of that type, for every
sufficiently large fuel of the plpgsql semantics `PgGen.call`. Induction on the encoder's fuel, over
both kinds of position (`E2E.pos`).
-/
namespace Gomacro.E2ESql
open Gomacro.IR Gomacro.GoJson Gomacro.PgGen Gomacro.E2E

attribute [local irreducible] Tags.jsonName  -- see `Lemmas/Encode.lean`

def Good (r : Tri) : Prop := r = .tt ∨ r = .nul

theorem good_iff (r : Tri) : Good r ↔ r ≠ .ff := by cases r <;> simp [Good]

theorem boolAnd_good (rs : List Tri) (h : ∀ r ∈ rs, Good r) : Good (boolAnd rs) :=
  (good_iff _).mpr fun hff => (good_iff _).mp (h _ ((boolAnd_eq_ff rs).mp hff)) rfl

theorem foldl_and_good (rs : List Tri) (a : Tri) (ha : Good a) (h : ∀ r ∈ rs, Good r) : Good (rs.foldl Tri.and a) :=
  (good_iff _).mpr fun hff =>
    ((foldl_and_eq_ff rs a).mp hff).elim ((good_iff _).mp ha) fun hm => (good_iff _).mp (h _ hm) rfl

theorem and_good {a b : Tri} (ha : Good a) (hb : Good b) : Good (Tri.and a b) :=
  foldl_and_good [b] a ha (by simpa using hb)

variable (script : List PgFunc)

/-- the validator admits the document, for every sufficiently large fuel -/
def Acc (fn : String) (j : JVal) : Prop := Eventually (fun m => ∃ r, call script m fn (some j) = some r ∧ Good r)

/-- the validator's verdict on a possibly missing value (SQL NULL), for every sufficiently large fuel -/
def AccOpt (fn : String) (arg : Option JVal) : Prop :=
  Eventually (fun m => ∃ r, call script m fn arg = some r ∧ Good r)

section
variable {script}

/-! ### `call`, one template at a time -/

theorem acc_basic {fn kind : String} {j : JVal} (hl : lookupFunc script fn = some (.basic fn kind))
    (hk : typeOf j = kind) : Acc script fn j :=
  ev_succ fun m => ⟨.tt, C04_accept_basic script m fn kind j hl hk, .inl rfl⟩

theorem acc_enum {fn kind : String} {isInt : Bool} {tuple : List String} {tid : String} {j : JVal}
    (hl : lookupFunc script fn = some (.enum fn kind isInt tuple tid))
    (hk : typeOf j = kind) (hm : tuple.any (fun it => enumItemMatches isInt it j) = true) : Acc script fn j :=
  have ⟨it, hit, hi⟩ := List.any_eq_true.mp hm
  ev_succ fun m => ⟨.tt, C04_accept_member script m fn kind isInt tuple tid j hl hk it hit hi, .inl rfl⟩

theorem acc_array_null {fn elemFn : String} (hl : lookupFunc script fn = some (.array fn elemFn (-1))) :
    Acc script fn .null := ev_succ fun m => ⟨.tt, (C04_accept_nil_slice script m fn elemFn hl).1, .inl rfl⟩

theorem acc_array {fn elemFn : String} {len : Int} {l : List JVal}
    (hl : lookupFunc script fn = some (.array fn elemFn len))
    (hlen : len = -1 ∨ (l.length : Int) = len)
    (h : ∀ x ∈ l, Acc script elemFn x) : Acc script fn (.arr l) := by
  refine ev_shift (ev_mono (ev_forall_mem l _ h) fun m hh => ?_)
  obtain ⟨rs, hrs, hgs⟩ := List.mapM_of_forall l hh
  simp only [call_of_lookup m _ hl, PgAst.step, hrs, Option.map_some]
  by_cases he : (len == -1 && l.isEmpty) = true
  · exact ⟨.tt, if_pos he, .inl rfl⟩
  · refine ⟨_, if_neg he, ?_⟩
    by_cases hp : len ≥ 0
    · have hlen' : (l.length : Int) = len := hlen.resolve_left (by omega)
      rw [if_pos hp, if_pos (beq_iff_eq.mpr hlen')]
      exact and_good (boolAnd_good rs hgs) (.inl rfl)
    · rw [if_neg hp]; exact boolAnd_good rs hgs

theorem acc_map_null {fn elemFn : String} (hl : lookupFunc script fn = some (.map fn elemFn)) :
    Acc script fn .null := ev_succ fun m => ⟨.tt, C04_accept_nil_map script m fn elemFn hl, .inl rfl⟩

theorem acc_map {fn elemFn : String} {kvs : List (String × JVal)}
    (hl : lookupFunc script fn = some (.map fn elemFn))
    (h : ∀ p ∈ kvs, Acc script elemFn p.2) : Acc script fn (.obj kvs) := by
  refine ev_shift (ev_mono (ev_forall_mem kvs _ h) fun m hh => ?_)
  obtain ⟨rs, hrs, hgs⟩ := List.mapM_of_forall kvs hh
  simp only [call_of_lookup m _ hl, PgAst.step, hrs, Option.map_some]
  exact ⟨_, rfl, and_good (Or.inl rfl) (boolAnd_good rs hgs)⟩

/-- a struct validator: every field validator admits what is under its key — SQL NULL when the key is
missing — and no other key is present -/
theorem acc_struct_opt {fn : String} {fields : List (String × String)} {kvs : List (String × JVal)}
    (hl : lookupFunc script fn = some (.struct fn fields))
    (h1 : ∀ p ∈ fields, AccOpt script p.2 (kvs.lookup p.1))
    (h2 : ∀ q ∈ kvs, fields.any (fun p => p.1 == q.1) = true) : Acc script fn (.obj kvs) := by
  refine ev_shift (ev_mono (ev_forall_mem fields _ h1) fun m hh => ?_)
  obtain ⟨rs, hrs, hgs⟩ := List.mapM_of_forall fields hh
  simp only [call_of_lookup m _ hl, PgAst.step, hrs, Option.map_some]
  refine ⟨_, rfl, foldl_and_good rs _ (boolAnd_good _ fun r hr => ?_) hgs⟩
  obtain ⟨q, hq, rfl⟩ := List.mem_map.mp hr
  simp [h2 q hq, Good]

end

theorem acc_struct (fn : String) (fields : List (String × String)) (kvs : List (String × JVal))
    (hl : lookupFunc script fn = some (.struct fn fields))
    (h1 : ∀ p ∈ fields, ∃ x, kvs.lookup p.1 = some x ∧ Acc script p.2 x)
    (h2 : ∀ q ∈ kvs, fields.any (fun p => p.1 == q.1) = true) : Acc script fn (.obj kvs) :=
  acc_struct_opt hl (fun p hp => let ⟨_, hx, ha⟩ := h1 p hp; hx ▸ ha) h2

section
variable {script}

theorem acc_union {fn : String} {cases : List (String × String)} {name vf : String} {data : JVal}
    (hl : lookupFunc script fn = some (.union fn cases))
    (hc : cases.lookup name = some vf) (hnn : isJsonNull (some data) = false)
    (h : Acc script vf data) : Acc script fn (.obj [("Data", data), ("Kind", .str name)]) := by
  refine ev_shift (ev_mono h fun m ⟨r, hr, hg⟩ => ⟨r, ?_, hg⟩)
  rw [C04_union_dispatch script m fn cases name vf data hl hc (by rintro rfl; cases hnn)]; exact hr

end

/-! ### the end-to-end statement -/

variable (env : Env) (w : Wrappers) (ds : List Decl)

def HasAll (t : Ty) : Prop := ∀ s ∈ subTys t, scriptHas env script s = true

def GoalS (n : Nat) : Prop :=
  ∀ t v, TyIn ds t → HasAll script env t → noUnion env t = true → shapeOk t = true → lensOk t = true →
    hasType env n t v = true → Acc script (fnName env t) (encode env w n false t v)

/-- the statement at fuel `n`, in both kinds of position -/
def GoalSP (n : Nat) : Prop :=
  ∀ wr t v, TyIn ds t → HasAll script env t → pos env wr t = true → shapeOk t = true → lensOk t = true →
    hasType env n t v = true → Acc script (fnName env t) (encode env w n wr t v)

section
variable {script} {env} {w} {ds} {n : Nat}

theorem has_self {t : Ty} (h : HasAll script env t) : scriptHas env script t = true :=
  h t (by cases t <;> simp [subTys])

theorem has_arr_elem {n : Int} {e : Ty} (h : HasAll script env (.arr n e)) : HasAll script env e :=
  fun s hs => h s (by simp [subTys, hs])

theorem has_map_elem {k e : Ty} (h : HasAll script env (.map k e)) : HasAll script env e :=
  fun s hs => h s (by simp [subTys, hs])

theorem goalS_basic {g : String} {bk : BKind} {v : GoVal} (hh : HasAll script env (.basic g bk))
    (ht : hasType env (n + 1) (.basic g bk) v = true) :
    Acc script (fnName env (.basic g bk)) (encode env w (n + 1) false (.basic g bk) v) := by
  have hs := has_self hh
  rw [encode_basic]
  rcases hasType_basic ht with ⟨rfl, b, rfl⟩ | ⟨rfl, r, rfl⟩ | ⟨rfl, r, rfl⟩ | ⟨rfl, s, rfl⟩ <;>
    simp only [scriptHas, funcOf, nameFromKind, Option.map_some, decide_eq_true_eq] at hs <;>
    exact acc_basic hs rfl

theorem goalS_time {d : Bool} {v : GoVal} (hh : HasAll script env (.time d))
    (ht : hasType env (n + 1) (.time d) v = true) :
    Acc script (fnName env (.time d)) (encode env w (n + 1) false (.time d) v) := by
  have hs := has_self hh
  obtain ⟨s, rfl⟩ := hasType_time ht
  simp only [scriptHas, funcOf, decide_eq_true_eq] at hs
  rw [encode_time]
  exact acc_basic hs rfl

theorem goalS_arr (hg : GoalSP script env w ds n)
    {k : Int} {e : Ty} {v : GoVal} (hin : TyIn ds (.arr k e)) (hh : HasAll script env (.arr k e))
    (hpe : pos env false e = true) (hs : shapeOk (.arr k e) = true) (hl : lensOk (.arr k e) = true)
    (ht : hasType env (n + 1) (.arr k e) v = true) :
    Acc script (fnName env (.arr k e)) (encode env w (n + 1) false (.arr k e) v) := by
  obtain ⟨nl, es, rfl, hlen, hall⟩ := hasType_arr.mp ht
  simp only [shapeOk, Bool.and_eq_true, bne_iff_ne] at hs
  simp only [lensOk, Bool.and_eq_true, decide_eq_true_eq] at hl
  have hfn := has_self hh
  simp only [scriptHas, funcOf, decide_eq_true_eq] at hfn
  have helems : ∀ x ∈ es.map (encode env w n false e), Acc script (fnName env e) x := by
    intro x hx
    obtain ⟨v', hv', rfl⟩ := List.mem_map.mp hx
    exact hg false e v' (tyIn_arr hin) (has_arr_elem hh) hpe hs.1.2 hl.2 (hall v' hv')
  rw [encode_arr]
  by_cases hneg : k < 0
  · obtain rfl : k = -1 := by omega
    cases nl <;> simp only [decide_true, Bool.and_true, Bool.and_false, if_true, Bool.false_eq_true, if_false]
    · exact acc_array hfn (Or.inl rfl) helems
    · exact acc_array_null hfn
  · simp only [hneg, decide_false, Bool.false_and, Bool.false_eq_true, if_false]
    exact acc_array hfn (Or.inr (by simp; omega)) helems

theorem goalS_map (hg : GoalSP script env w ds n)
    {k e : Ty} {v : GoVal} (hin : TyIn ds (.map k e)) (hh : HasAll script env (.map k e))
    (hpe : pos env false e = true) (hs : shapeOk (.map k e) = true) (hl : lensOk (.map k e) = true)
    (ht : hasType env (n + 1) (.map k e) v = true) :
    Acc script (fnName env (.map k e)) (encode env w (n + 1) false (.map k e) v) := by
  obtain ⟨nl, kvs, rfl, hall⟩ := hasType_map.mp ht
  have hse : shapeOk e = true := by
    cases k with
    | basic g bk => cases bk <;> simp_all [shapeOk]
    | _ => simp [shapeOk] at hs
  have hfn := has_self hh
  simp only [scriptHas, funcOf, decide_eq_true_eq] at hfn
  rw [encode_map]
  cases nl <;> simp only [if_true, Bool.false_eq_true, if_false]
  · refine acc_map hfn fun p hpm => ?_
    obtain ⟨kv, hkv, rfl⟩ := List.mem_map.mp hpm
    exact hg false e kv.2 (tyIn_map hin).2 (has_map_elem hh) hpe hse hl
      (hall kv hkv).2
  · exact acc_map_null hfn

end

/-! ### named types -/

section
variable {script} {env} {w} {ds} {n : Nat} (F : FragmentSql env w script ds) {d : Decl} (hd : d ∈ ds)
include F hd

theorem has_child {t : Ty} (ht : t ∈ sqlChildTys d) : HasAll script env t := fun s hs => by
  have hprov := F.provided d hd
  simp only [providedSql, List.all_eq_true] at hprov
  exact hprov s (List.mem_cons_of_mem _ (List.mem_flatMap.mpr ⟨t, ht, hs⟩))

theorem has_own : scriptHas env script (.ref d.q) = true := by
  have hprov := F.provided d hd
  simp only [providedSql, List.all_eq_true] at hprov
  exact hprov _ List.mem_cons_self

theorem has_ref : HasAll script env (.ref d.q) := fun s hs => by
  simp only [subTys, List.mem_singleton] at hs
  exact hs ▸ has_own F hd

theorem tyIn_child {t : Ty} (ht : t ∈ sqlChildTys d) : TyIn ds t := tyIn_of_closed (F.closed d hd) ht

end

section
variable {script} {env} {w} {ds} {n : Nat}

theorem enumLiteral_num {m : Member} {x : String} (h : TsGen.enumLiteral m = .litNum x) : x = m.valStr := by
  unfold TsGen.enumLiteral at h
  split at h
  · cases h
  · split at h
    · cases h
    · split at h
      · cases h
      · cases h; rfl

/-- the enum validator lists what Go writes for the constant -/
theorem enumItem_matches {bk : BKind} {ms : List Member} (hok : enumOkSql bk ms = true) {m : Member} (hm : m ∈ ms)
    {v : GoVal} (hlit : litOk m v = true) :
    typeOf (scalarDoc v) = (nameFromKind bk).getD "" ∧
      enumItemMatches (bk == .int) (enumTupleItem m) (scalarDoc v) = true := by
  cases bk <;> simp only [enumOkSql, List.all_eq_true, Bool.and_eq_true, beq_iff_eq, Bool.false_eq_true] at hok
  · -- string constants
    obtain ⟨hitem, hkind⟩ := hok m hm
    cases hel : TsGen.enumLiteral m <;> simp only [hel, beq_iff_eq, Bool.false_eq_true] at hkind
    cases v <;> simp only [litOk, hel, beq_iff_eq, Bool.false_eq_true] at hlit
    simp [scalarDoc, typeOf, nameFromKind, enumItemMatches, hitem, ← hkind, hlit]
  · -- integer constants
    obtain ⟨hitem, hkind⟩ := hok m hm
    cases hel : TsGen.enumLiteral m <;> simp only [hel, beq_iff_eq, Bool.false_eq_true] at hkind
    cases v <;> simp only [litOk, hel, beq_iff_eq, Bool.false_eq_true] at hlit <;>
      simp [scalarDoc, typeOf, nameFromKind, enumItemMatches, hitem, ← hkind, hlit]

theorem goalS_enum (F : FragmentSql env w script ds) {d : Decl} (hd : d ∈ ds) {un : String} {bk : BKind}
    {ms : List Member} {io : Bool} (hb : d.body = .enum un bk ms io) {v : GoVal}
    (ht : hasType env (n + 1) (.ref d.q) v = true) :
    Acc script (fnName env (.ref d.q)) (encode env w (n + 1) false (.ref d.q) v) := by
  have hf := F.found d hd
  have hok := F.ok d hd
  simp only [declOkSql, hb] at hok
  rw [hasType_enum hf hb] at ht
  obtain ⟨m, hm, hlit⟩ := List.any_eq_true.mp ht
  obtain ⟨hty, hitem⟩ := enumItem_matches hok hm hlit
  have hown := has_own F hd
  rw [encode_enum hf hb]
  cases hk : nameFromKind bk with
  | none => cases bk <;> simp [enumOkSql, nameFromKind] at hok hk
  | some k =>
    simp only [scriptHas, funcOf, hf, hb, hk, Option.map_some, decide_eq_true_eq] at hown
    exact acc_enum hown (by rw [hty, hk]; rfl) (List.any_eq_true.mpr ⟨_, List.mem_map.mpr ⟨m, hm, rfl⟩, hitem⟩)

end

section
variable {script} {env} {w} {ds} {n : Nat}

theorem lookup_map_find {α} (key val : α → String) (name : String) (pred : α → Bool) :
    ∀ (ms : List α), (∀ m ∈ ms, pred m = (key m == name)) → ∀ m0, ms.find? pred = some m0 →
      (ms.map fun m => (key m, val m)).lookup name = some (val m0)
  | [], _, m0, h => by simp at h
  | a :: as, hp, m0, h => by
    have ha := hp a (by simp)
    rw [List.find?_cons] at h
    rw [List.map_cons, List.lookup_cons]
    cases hpa : pred a <;> rw [hpa] at h ha
    · have hne : key a ≠ name := by simpa using ha.symm
      have hk : (name == key a) = false := by simpa using hne.symm
      rw [hk]
      exact lookup_map_find key val name pred as (fun m hm => hp m (by simp [hm])) m0 h
    · have he : key a = name := by simpa using ha.symm
      have hk : (name == key a) = true := by simp [he]
      cases h
      rw [hk]

/-- a member of a union never encodes to `null` (the union validator refuses a null Data) -/
theorem member_not_null (hf : env.find? mq = some md) (hk : memberOkSql env (.ref mq) = true) {mv : GoVal}
    (hmv : hasType env n (.ref mq) mv = true) : isJsonNull (some (encode env w n false (.ref mq) mv)) = false := by
  simp only [memberOkSql, hf] at hk
  cases n with
  | zero => simp [hasType] at hmv
  | succ n =>
    cases hb : md.body with
    | struct fs cs im =>
      obtain ⟨vals, rfl, -⟩ := (hasType_struct hf hb).mp hmv
      rw [encode_struct hf hb]; rfl
    | enum un bk ems io =>
      rw [hasType_enum hf hb] at hmv
      obtain ⟨m, -, hl⟩ := List.any_eq_true.mp hmv
      rw [encode_enum hf hb]
      cases mv <;> simp [litOk] at hl <;> rfl
    | named u =>
      rw [hb] at hk
      cases u with
      | basic g bk =>
        rw [hasType_named hf hb] at hmv
        cases n with
        | zero => simp [hasType] at hmv
        | succ n =>
          have henc : encode env w (n + 1 + 1) false (.ref mq) mv = scalarDoc mv := by
            cases hw : w.nameds.contains mq
            · rw [encode_named hf hb hw, encode_basic]
            · have hw' : mq ∈ w.nameds := by simpa using hw
              cases mv <;> simp [encode, hf, hb, hw', scalarDoc]
          rw [henc]
          rcases hasType_basic hmv with ⟨-, b, rfl⟩ | ⟨-, r, rfl⟩ | ⟨-, r, rfl⟩ | ⟨-, s, rfl⟩ <;> rfl
      | _ => simp at hk
    | union ms' => simp [hb] at hk

/-- a union value in a wrapped position -/
theorem goalS_union (F : FragmentSql env w script ds) (hg : GoalSP script env w ds n)
    {ud : Decl} (hud : ud ∈ ds) {ms : List Ty} (hb : ud.body = .union ms) {v : GoVal}
    (ht : hasType env (n + 1) (.ref ud.q) v = true) :
    Acc script (fnName env (.ref ud.q)) (encode env w (n + 1) true (.ref ud.q) v) := by
  have hf := F.found ud hud
  have hok := F.ok ud hud
  simp only [declOkSql, hb, List.all_eq_true, Bool.and_eq_true] at hok
  have hown := has_own F hud
  simp only [scriptHas, funcOf, hf, hb, decide_eq_true_eq] at hown
  obtain ⟨name, mv, rfl, hany, hmv⟩ := (hasType_union hf hb).mp ht
  have hchild : ∀ m ∈ ms, m ∈ sqlChildTys ud := fun m hm => by simp [sqlChildTys, hb, hm]
  have hms : ∀ m ∈ ms, ∃ md ∈ ds, m = .ref md.q := fun m hm => by
    have hr := (hok m hm).2
    cases m <;> simp [memberOkSql] at hr
    exact tyIn_ref.mp (tyIn_child F hud (hchild _ hm)) |>.imp fun md h => ⟨h.1, by rw [h.2]⟩
  obtain ⟨md, hmd, hmt, hmem, hname⟩ := memberTy_of_any F.found hb hms hany
  rw [hmt] at hmv
  rw [encode_union hf hb, if_pos rfl, hmt]
  -- the CASE of the validator has the arm of this Kind, calling the member's validator
  have hcases : (ms.map fun m => (match m with
        | .ref mq => (match env.find? mq with | some md => md.name | none => "?")
        | _ => "?", fnName env m)).lookup name = some (fnName env (.ref md.q)) := by
    refine lookup_map_find _ (fnName env) name (namedBy env name) ms (fun m hm => ?_) _ ?_
    · obtain ⟨md', hmd', rfl⟩ := hms m hm
      simp [namedBy, F.found md' hmd']
    · have := memberTy_union (env := env) hb name
      rw [hmt] at this
      cases h : ms.find? (namedBy env name) with
      | some t => rw [h] at this; exact congrArg some this.symm
      | none => obtain ⟨m, hm, hn⟩ := List.any_eq_true.mp hany
                obtain ⟨md', hmd', rfl⟩ := hms m hm
                exact absurd (List.find?_eq_none.mp h _ hm) (by simpa [namedBy, localNameOf, F.found md' hmd'] using hn)
  exact acc_union hown hcases (member_not_null (F.found md hmd) (hok _ hmem).2 hmv)
    (hg false _ mv (tyIn_ref.mpr ⟨md, hmd, rfl⟩) (has_ref F hmd) (hok _ hmem).1 rfl rfl hmv)

end

section
variable {script} {env} {w} {ds} {n : Nat}

theorem goalSP_named (F : FragmentSql env w script ds) (hg : GoalSP script env w ds n) {d : Decl} (hd : d ∈ ds)
    {u : Ty} (hb : d.body = .named u) {v : GoVal} (ht : hasType env (n + 1) (.ref d.q) v = true) :
    Acc script (fnName env (.ref d.q)) (encode env w (n + 1) false (.ref d.q) v) := by
  have hf := F.found d hd
  have hok := F.ok d hd
  rw [hasType_named hf hb] at ht
  have hchild : u ∈ sqlChildTys d := by simp [sqlChildTys, hb]
  have hin := tyIn_child F hd hchild
  have hhas := has_child F hd hchild
  simp only [declOkSql, hb, Bool.and_eq_true, beq_iff_eq] at hok
  obtain ⟨hshape, hfn⟩ := hok
  rw [hfn]
  by_cases hw : w.nameds.contains d.q = true
  · -- a named slice / map of unions, written element-wise through the wrapper: the elements are
    -- encoded with the fuel `n`, one more than the typing of the container leaves for them
    replace ht := hasType_mono env n _ _ ht
    have hfnu := has_self hhas
    rw [if_pos hw] at hshape
    split at hshape
    · simp only [Bool.and_eq_true, decide_eq_true_eq] at hshape
      obtain ⟨rfl, hun⟩ := hshape
      simp only [scriptHas, funcOf, decide_eq_true_eq] at hfnu
      obtain ⟨nl, es, rfl, -, hall⟩ := hasType_arr.mp ht
      rw [encode_namedSlice hf hb hw]
      refine acc_array hfnu (Or.inl rfl) fun x hx => ?_
      split at hx
      · cases hx
      · obtain ⟨v', hv', rfl⟩ := List.mem_map.mp hx
        exact hg true _ v' (tyIn_arr hin) (has_arr_elem hhas) hun rfl rfl (hall v' hv')
    · simp only [scriptHas, funcOf, decide_eq_true_eq] at hfnu
      obtain ⟨nl, kvs, rfl, hall⟩ := hasType_map.mp ht
      rw [encode_namedMap hf hb hw]
      refine acc_map hfnu fun p hpm => ?_
      obtain ⟨kv, hkv, rfl⟩ := List.mem_map.mp hpm
      exact hg true _ kv.2 (tyIn_map hin).2 (has_map_elem hhas) ((Bool.and_eq_true _ _).mp hshape).2 rfl rfl (hall kv hkv).2
    · cases hshape
  · simp only [if_neg hw, Bool.and_eq_true] at hshape
    rw [encode_named hf hb (Bool.not_eq_true _ ▸ hw)]
    exact hg false u v hin hhas hshape.1.2 hshape.1.1 hshape.2 ht

end

/-- **an omitted key is admitted**: the validator of the type of an empty value (what `omitempty`
drops: false, 0, "", an empty or nil slice or map) answers NULL on SQL NULL -/
theorem acc_null_of_empty (F : FragmentSql env w script ds) : ∀ (n : Nat) (t : Ty) (v : GoVal),
    TyIn ds t → HasAll script env t → hasType env n t v = true → isEmptyVal v = true →
    AccOpt script (fnName env t) none
  | 0, _, _, _, _, ht, _ => by simp [hasType] at ht
  | n + 1, t, v, hin, hh, ht, he => by
    have hs := has_self hh
    -- every validator but those of structs and unions answers NULL on SQL NULL
    have hnul : ∀ fd, lookupFunc script (fnName env t) = some fd →
        (match fd with | .union _ _ => False | .struct _ _ => False | _ => True) →
        AccOpt script (fnName env t) none := fun fd hl hk => ev_succ fun _ => by
      cases fd <;> simp at hk <;> exact ⟨.nul, by simp [call, hl], Or.inr rfl⟩
    cases t with
    | basic g bk =>
      rcases hasType_basic ht with ⟨rfl, -⟩ | ⟨rfl, -⟩ | ⟨rfl, -⟩ | ⟨rfl, -⟩ <;>
        simp only [scriptHas, funcOf, nameFromKind, Option.map_some, decide_eq_true_eq] at hs <;>
        exact hnul _ hs trivial
    | time d => obtain ⟨s, rfl⟩ := hasType_time ht; simp [isEmptyVal] at he
    | arr k e =>
      simp only [scriptHas, funcOf, decide_eq_true_eq] at hs
      exact hnul _ hs trivial
    | map k e =>
      simp only [scriptHas, funcOf, decide_eq_true_eq] at hs
      exact hnul _ hs trivial
    | ptr e => simp [hasType] at ht
    | ref q =>
      obtain ⟨d, hd, rfl⟩ := tyIn_ref.mp hin
      have hf := F.found d hd
      have hok := F.ok d hd
      cases hb : d.body with
      | named u =>
        simp only [declOkSql, hb, Bool.and_eq_true, beq_iff_eq] at hok
        have hchild : u ∈ sqlChildTys d := by simp [sqlChildTys, hb]
        rw [hasType_named hf hb] at ht
        rw [hok.2]
        exact acc_null_of_empty F n u v (tyIn_child F hd hchild) (has_child F hd hchild) ht he
      | enum un bk ms io =>
        simp only [declOkSql, hb] at hok
        cases hk : nameFromKind bk with
        | none => cases bk <;> simp [enumOkSql, nameFromKind] at hok hk
        | some k =>
          simp only [scriptHas, funcOf, hf, hb, hk, Option.map_some, decide_eq_true_eq] at hs
          exact hnul _ hs trivial
      | struct fs cs impls =>
        obtain ⟨vals, rfl, -⟩ := (hasType_struct hf hb).mp ht
        simp [isEmptyVal] at he
      | union ms =>
        obtain ⟨name, mv, rfl, -⟩ := (hasType_union hf hb).mp ht
        simp [isEmptyVal] at he

section
variable {script} {env} {w} {ds} {n : Nat}

theorem goalS_struct (F : FragmentSql env w script ds) (hg : GoalSP script env w ds n)
    {d : Decl} (hd : d ∈ ds) {fs : List Field} {cs : List IR.Comment} {im : List String} (hb : d.body = .struct fs cs im)
    {v : GoVal} (ht : hasType env (n + 1) (.ref d.q) v = true) :
    Acc script (fnName env (.ref d.q)) (encode env w (n + 1) false (.ref d.q) v) := by
  have hf := F.found d hd
  obtain ⟨vals, rfl, hty⟩ := (hasType_struct hf hb).mp ht
  rw [hasTypeFields_eq, List.all_eq_true] at hty
  have hok := F.ok d hd
  simp only [declOkSql, hb, Bool.and_eq_true, List.all_eq_true, Bool.not_eq_true', decide_eq_true_eq] at hok
  obtain ⟨⟨hfields, hnd⟩, hwrap⟩ := hok
  have hfok : ∀ f ∈ serialised fs, (tagOptions f.tag).contains "string" = false ∧ RoundTrip.keyOkN f = true ∧
      Tags.get f.tag "gomacro" ≠ "ignore" := fun f hfs => by
    have := (hfields f hfs).1.1.1
    simp only [fieldOkSql, RoundTrip.fieldOkN, Bool.and_eq_true, Bool.not_eq_true', bne_iff_ne, ne_eq] at this
    exact ⟨this.1.1, this.1.2, this.2⟩
  have hkey : ∀ f ∈ serialised fs, ∀ k, Tags.goJsonKey f.tag f.name f.goExported = some k → k = fkey f :=
    fun f hfs _ => fkey_of_key (hfok f hfs).2.1
  have hown := has_own F hd
  simp only [scriptHas, funcOf, hf, hb, decide_eq_true_eq, selected,
    filter_exported fun f hfs => (hfok f hfs).2.2] at hown
  rw [encode_struct hf hb]
  refine acc_struct_opt hown (fun p hp => ?_) fun p hp => ?_
  · obtain ⟨f, hfs, rfl⟩ := List.mem_map.mp hp
    obtain ⟨fv, hfv, htyv⟩ := (Option.any_eq_true _ _).mp (hty f hfs)
    obtain ⟨⟨⟨-, hfty⟩, hnop⟩, hlf⟩ := hfields f hfs
    simp only [hnop, Bool.false_or] at htyv
    simp only [fieldTyOk, Bool.and_eq_true, Bool.or_eq_true] at hfty
    have hchild : f.ty ∈ sqlChildTys d := by
      simp only [sqlChildTys, hb, selected, filter_exported fun f hfs => (hfok f hfs).2.2]
      exact List.mem_map.mpr ⟨f, hfs, rfl⟩
    dsimp only
    rw [show Tags.jsonName f.tag f.name = fkey f from rfl, encodeFields_lookup hkey hnd hfs hfv,
      quoteIf_noString (hfok f hfs).1]
    split
    · -- the key is omitted: the validator of the field sees SQL NULL
      rename_i hom
      simp only [Bool.and_eq_true] at hom
      exact acc_null_of_empty script env w ds F n f.ty fv (tyIn_child F hd hchild) (has_child F hd hchild) htyv hom.2
    · show Acc script (fnName env f.ty) _
      exact hg _ f.ty fv (tyIn_child F hd hchild) (has_child F hd hchild)
        (pos_field hfty.2 fun hu => hwrap (List.any_eq_true.mpr ⟨f, hfs, hu⟩)) hfty.1 hlf htyv
  · obtain ⟨f, hfs, hpk⟩ := encodeFields_keys hkey hp
    exact List.any_eq_true.mpr ⟨(fkey f, fnName env f.ty), List.mem_map.mpr ⟨f, hfs, rfl⟩, by simp [hpk]⟩


/-- **the statement in both kinds of position** -/
theorem end_to_end_sql (F : FragmentSql env w script ds) : ∀ n, GoalSP script env w ds n
  | 0 => fun _ _ _ _ _ _ _ _ ht => by simp [hasType] at ht
  | n + 1 => fun wr t v hin hh hpos hs hl ht => by
    have hg := end_to_end_sql F n
    cases pos_view F.found hin hpos with
    | basic g bk => exact goalS_basic hh ht
    | time d => exact goalS_time hh ht
    | arr hpe => exact goalS_arr hg hin hh hpe hs hl ht
    | map hpe => exact goalS_map hg hin hh hpe hs hl ht
    | named hd hb => exact goalSP_named F hg hd hb ht
    | struct hd hb => exact goalS_struct F hg hd hb ht
    | enum hd hb => exact goalS_enum F hd hb ht
    | union hd hb => exact goalS_union F hg hd hb ht

end

/-- **C04, end to end (acceptance)**: in a program of the fragment, the validator generated for a
type admits (TRUE or NULL: what a CHECK lets through) the document Go writes for every value of
that type, for every sufficiently large fuel of the plpgsql semantics. -/
theorem C04_end_to_end (F : FragmentSql env w script ds) : ∀ n, GoalS script env w ds n := by
  intro n t v hin hh hnu hs hl ht
  exact end_to_end_sql F n false t v hin hh hnu hs hl ht

/-- the case of a named type as a step of the induction over unwrapped positions; `hg` is not needed,
`goalSP_named` is the lemma `end_to_end_sql` uses -/
theorem goalS_named (F : FragmentSql env w script ds) (n : Nat) (hg : ∀ k, k ≤ n → GoalS script env w ds k)
    (q : String) (d : Decl) (u : Ty) (v : GoVal) (hd : d ∈ ds) (hq : d.q = q) (hb : d.body = .named u)
    (ht : hasType env (n + 1) (.ref q) v = true) :
    Acc script (fnName env (.ref q)) (encode env w (n + 1) false (.ref q) v) := by
  subst hq
  exact goalSP_named F (end_to_end_sql F n) hd hb ht

theorem fragmentSql_of_check (h : fragmentSqlB env w script ds = true) : FragmentSql env w script ds := by
  simp only [fragmentSqlB, Bool.and_eq_true, List.all_eq_true, decide_eq_true_eq, List.any_eq_true, beq_iff_eq] at h
  obtain ⟨⟨⟨h2, h3⟩, h4⟩, h5⟩ := h
  exact { found := h2, closed := h3, ok := h4, provided := h5 }

/-- the CHECK of a column admits the row: TRUE or NULL -/
theorem C04_check_admits (h : fragmentSqlB env w script ds = true) (n : Nat) (t : Ty) (v : GoVal)
    (hin : TyIn ds t) (hh : ∀ s ∈ subTys t, scriptHas env script s = true) (hnu : noUnion env t = true)
    (hs : shapeOk t = true) (hl : lensOk t = true) (ht : hasType env n t v = true) :
    Eventually (fun m => admits (call script m (fnName env t) (some (encode env w n false t v))) = true) := by
  refine ev_mono (C04_end_to_end script env w ds (fragmentSql_of_check script env w ds h) n t v hin hh hnu hs hl ht)
    fun m ⟨r, hr, hg⟩ => ?_
  rw [hr]
  rcases hg with rfl | rfl <;> rfl

end Gomacro.E2ESql
