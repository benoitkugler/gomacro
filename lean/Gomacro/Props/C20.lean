import Gomacro.Lemmas.Sched
import Gomacro.Facts.Generated
/-!
# C20 — Formatter probing is race-free, cached and optional

Theorems over the protocol model `Gomacro/Sched.lean`, for every number of requests, every
schedule (interleaving) and every configuration of the four external tools; plus the
structural facts regenerated from `generator/formatters.go` that tie the model's shape to the code.
-/
namespace Gomacro.Sched

/-- **probe at most once**: in every reachable state each tool's probe command has run at most once. -/
theorem C20_probe_once {c : Cfg} {s : St} (h : Reachable c s) (t : Tool) : s.probes t ≤ 1 := by
  have inv := inv_reachable h
  cases hc : s.cell t with
  | some b => exact Nat.le_of_eq ((inv.entry t).some b hc).1
  | none =>
    rcases (inv.entry t).none hc with h0 | ⟨j, r, hj, rfl⟩
    · exact h0 ▸ Nat.zero_le 1
    · have := (inv.thread j).view; rw [hj] at this; exact Nat.le_of_eq this.2

/-- **locked access**: every read or write of a cache cell, in every execution, is performed by
a thread that holds the mutex at that moment. -/
theorem C20_locked_access {c : Cfg} {s : St} (h : Reachable c s) (i : Nat) :
    ∀ a, access c s i = some a →
      (a = .read i (c.req i) (some i) ∨ a = .write i (c.req i) (some i)) := by
  intro a ha
  have ⟨hin, ha⟩ := access_some ha
  rwa [((inv_reachable h).thread i).mutex.1 hin] at ha

/-- hence two different threads are never both about to access the cache: conflicting accesses
are totally ordered by the mutex (no data race on the modelled cells). -/
theorem C20_no_concurrent_access {c : Cfg} {s : St} (h : Reachable c s) (i j : Nat)
    (hi : access c s i ≠ none) (hj : access c s j ≠ none) : i = j :=
  (inv_reachable h).only (inside_of_access hj) (inside_of_access hi)

/-- **run once per request when present, never when absent** -/
theorem C20_run_per_request {c : Cfg} {s : St} (h : Reachable c s) (i : Nat) (e : Bool)
    (hd : s.pc i = .done e) : s.runs i = if c.installed (c.req i) then 1 else 0 :=
  ((inv_reachable h).done hd).1

theorem C20_no_run_before_done {c : Cfg} {s : St} (h : Reachable c s) (i : Nat)
    (hd : ∀ e, s.pc i ≠ .done e) : s.runs i = 0 :=
  (((inv_reachable h).thread i).loc).runs_zero hd

/-- **absent tool**: the request succeeds and the formatter never ran (file untouched). -/
theorem C20_absent_ok_untouched {c : Cfg} {s : St} (h : Reachable c s) (i : Nat) (e : Bool)
    (habs : c.installed (c.req i) = false) (hd : s.pc i = .done e) : e = false ∧ s.runs i = 0 := by
  have := (inv_reachable h).done hd; rw [habs] at this; exact ⟨this.2, this.1⟩

/-- **failing formatter run is reported** -/
theorem C20_failing_reported {c : Cfg} {s : St} (h : Reachable c s) (i : Nat) (e : Bool)
    (hin : c.installed (c.req i) = true) (hf : c.runOk (c.req i) = false)
    (hd : s.pc i = .done e) : e = true := by
  rw [((inv_reachable h).done hd).2, hin, hf]; rfl

theorem C20_success_reported {c : Cfg} {s : St} (h : Reachable c s) (i : Nat) (e : Bool)
    (hf : c.runOk (c.req i) = true) (hd : s.pc i = .done e) : e = false := by
  rw [((inv_reachable h).done hd).2, hf, Bool.not_true, Bool.and_false]

/-- **no deadlock**: while some request is unfinished, some thread can make progress. -/
theorem C20_no_deadlock {c : Cfg} {s : St} (h : Reachable c s) (i : Nat)
    (hnd : ∀ e, s.pc i ≠ .done e) : ∃ j, (step c s j).pc j ≠ s.pc j := by
  cases hl : s.lock with
  | none => exact ⟨i, step_progress c s i (fun _ => hl) hnd⟩
  | some j =>
    have hin := ((inv_reachable h).thread j).mutex.2 hl
    exact ⟨j, step_progress c s j (fun hp => by rw [hp] at hin; cases hin)
      (fun e hp => by rw [hp] at hin; cases hin)⟩

/-! non-vacuity: a reachable state in which two requests for the same tool have completed,
the probe ran once and the formatter twice -/
example : let c : Cfg := ⟨fun _ => true, fun _ => true, fun _ => .go⟩
    let s := run c init [0, 1, 0, 0, 0, 0, 1, 1, 1, 0, 1]
    s.probes .go = 1 ∧ s.runs 0 = 1 ∧ s.runs 1 = 1 ∧ s.pc 1 = .done false := by
  decide +kernel

end Gomacro.Sched

namespace Gomacro.Facts
/-! ## Facts regenerated from generator/formatters.go (tie of the model's shape to the code) -/

def probeFns : List (String × String) :=
  [("Formatters.hasGo", "hasGoFmt"), ("Formatters.hasDart", "hasDartFmt"),
   ("Formatters.hasTypescript", "hasTsFmt"), ("Formatters.hasPsql", "hasPsqlFmt")]

/-- every access to a cache cell sits in its own probe function, under `Lock(); defer Unlock()`;
the cell is written only inside the `== nil` guard (so a cached value is never overwritten) -/
def accessOk (a : CellAccess) : Bool :=
  a.locked && probeFns.contains (a.func, a.field) &&
  (if a.kind == "read" then a.path == "" || a.path == "ifnil-cond" || a.path == "ifnil"
   else a.path == "ifnil")

def factsOk : Bool :=
  cellAccesses.all accessOk &&
  -- each probe function does read its cell under the nil guard and writes it there
  probeFns.all (fun (fn, fld) =>
    cellAccesses.any (fun a => a.func == fn && a.field == fld && a.kind == "read" && a.path == "ifnil-cond") &&
    cellAccesses.any (fun a => a.func == fn && a.field == fld && a.kind == "write" && a.path == "ifnil") &&
    cellAccesses.any (fun a => a.func == fn && a.field == fld && a.kind == "write-deref" && a.path == "ifnil")) &&
  -- the mutex is used by the probe functions only
  lockUsers.all (fun u => probeFns.any (fun p => p.1 == u)) &&
  -- FormatFile reaches the cells only through the probe functions, one per format
  formatCases == [⟨"Go", "hasGo", "goimports"⟩, ⟨"Dart", "hasDart", "dart"⟩,
                  ⟨"TypeScript", "hasTypescript", "npx"⟩, ⟨"Psql", "hasPsql", "pg_format"⟩]

/-- **regenerated obligation**: the lock discipline the model assumes is the one in the source -/
theorem C20_facts_ok : factsOk = true := by decide +kernel

end Gomacro.Facts
