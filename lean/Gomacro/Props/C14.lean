import Gomacro.AxiosGen
import Gomacro.Lemmas.MapM
/-!
# C14 — The generated Axios client issues exactly the extracted requests

Theorems about the method structure `genMethod` builds and the request `perform` derives from it:
name, verb, URL, query parameters (exactly the declared ones, each converted to a string by its
kind), body (JSON input / form data with exactly the declared entries / null / absent), response
handling. The guards name the endpoint shapes for which the statement fails (body input together
with form data or query parameters: witnesses below; body on a verb without body: observed by
the runner). The method structure is tied token-wise to the real generated text, and `perform` to
Node running that text against a recording axios.
-/
namespace Gomacro.AxiosGen
open List Gomacro.IR Gomacro.TsGen Gomacro.GoJson

theorem genMethod_some {env : Env} {e : Endpoint} {m : Method} (h : genMethod env e = some m) :
    ∃ sig query repTy, typeIn env e = some sig ∧
      (e.query.mapM fun p => (convOf env p.ty).map fun c => (p.name, c)) = some query ∧
      m = { name := e.name, sig := sig, url := e.url,
            withForm := e.withForm, formFile := e.formFile, formValues := e.formValues,
            formJSON := (e.formJSON.map (·.name)).getD "",
            verb := e.method.toLower,
            body := if e.withForm then .form else if e.input.isSome then .params else if expectBody e.method then .null else .absent,
            query := query, arraybuffer := e.blob, repTy := repTy,
            ret := if e.ret.isNone then .tru else if e.blob then .blobFile else .data } := by
  obtain ⟨sig, hs, h⟩ := Option.bind_eq_some_iff.1 h
  obtain ⟨query, hq, h⟩ := Option.bind_eq_some_iff.1 h
  obtain ⟨repTy, _, h⟩ := Option.bind_eq_some_iff.1 h
  exact ⟨sig, query, repTy, hs, hq, (Option.some.inj h).symm⟩

/-- **one method per endpoint, named after its handler, with the endpoint's verb and URL** -/
theorem C14_name_verb_url (env : Env) (e : Endpoint) (m : Method) (h : genMethod env e = some m) :
    m.name = e.name ∧ m.verb = e.method.toLower ∧ m.url = e.url := by
  obtain ⟨_, _, _, _, _, rfl⟩ := genMethod_some h
  exact ⟨rfl, rfl, rfl⟩

theorem genMethod_form {env e m} (h : genMethod env e = some m) :
    m.formFile = e.formFile ∧ m.formValues = e.formValues ∧ m.formJSON = (e.formJSON.map (·.name)).getD "" := by
  obtain ⟨_, _, _, _, _, rfl⟩ := genMethod_some h
  exact ⟨rfl, rfl, rfl⟩

theorem C14_sends_to (base : String) (m : Method) (a : Args) (r : Request) (h : perform base m a = some r) :
    r.verb = m.verb ∧ r.url = base ++ m.url ∧ r.arraybuffer = m.arraybuffer ∧ r.result = m.ret := by
  obtain ⟨_, _, h⟩ := Option.bind_eq_some_iff.1 h
  obtain ⟨_, _, h⟩ := Option.bind_eq_some_iff.1 h
  cases h
  exact ⟨rfl, rfl, rfl, rfl⟩

theorem perform_gen {env e m} (h : genMethod env e = some m) (base : String) {a q b}
    (hq : queryPart m a = some q) (hb : bodyPart m a = some b) :
    perform base m a = some
      { verb := e.method.toLower, url := base ++ e.url, body := b, query := q, arraybuffer := e.blob,
        result := if e.ret.isNone then .tru else if e.blob then .blobFile else .data } := by
  obtain ⟨_, _, _, _, _, rfl⟩ := genMethod_some h
  unfold perform
  rw [hq, hb]; rfl

theorem formPart_some {m a f v j} (hf : formFilePart m a = some f) (hv : formValuesPart m a = some v)
    (hj : formJSONPart m a = some j) : formPart m a = some (f ++ v ++ j) := by
  unfold formPart
  rw [hf, hv, hj]; rfl

theorem bodyPart_gen {env e m} (h : genMethod env e = some m) (a : Args) :
    bodyPart m a = if e.withForm then (formPart m a).map .form else
      if e.input.isSome then (argOf m a "params").map .json else
      some (if expectBody e.method then .null else .absent) := by
  obtain ⟨_, _, _, _, _, rfl⟩ := genMethod_some h
  unfold bodyPart
  cases e.withForm
  · cases e.input.isSome
    · cases expectBody e.method <;> rfl
    · rfl
  · rfl

/-! ### the signature -/

def sigNames (e : Endpoint) : List String :=
  match e.input with
  | some _ => ["params"]
  | none =>
    (if e.withForm && !e.formValues.isEmpty then ["formParams"] else []) ++
    (if e.withForm && e.formFile != "" then ["file"] else []) ++
    (if e.withForm && e.formJSON.isSome then ["formValue"] else []) ++
    (if e.query.isEmpty then [] else ["params"])

theorem names_ite {α} {c : Prop} [Decidable c] {o : Option α} {k : String} {l : List (String × α)}
    (h : (if c then o.map (fun t => [(k, t)]) else some []) = some l) :
    l.map (·.1) = if c then [k] else [] := by
  split at h
  · obtain ⟨_, _, rfl⟩ := Option.map_eq_some_iff.1 h; exact (if_pos ‹c›).symm
  · cases h; exact (if_neg ‹¬c›).symm

theorem sigFormValue_names {env e l} (h : sigFormValue env e = some l) :
    l.map (·.1) = if e.withForm && e.formJSON.isSome then ["formValue"] else [] := by
  unfold sigFormValue at h
  generalize e.withForm = w, e.formJSON = j at h ⊢
  cases w
  · cases h; rfl
  · cases j
    · cases h; rfl
    · exact names_ite (c := True) h

theorem sigQuery_names {env e l} (h : sigQuery env e = some l) :
    l.map (·.1) = if e.query.isEmpty then [] else ["params"] := by
  unfold sigQuery at h
  rw [← ite_not] at h ⊢
  exact names_ite h

theorem typeIn_names (env : Env) (e : Endpoint) (sig : List (String × String)) (h : typeIn env e = some sig) :
    sig.map (·.1) = sigNames e := by
  unfold typeIn at h
  unfold sigNames
  cases hi : e.input with
  | some t => rw [hi] at h; exact names_ite (c := True) h
  | none =>
    simp only [hi, Option.bind_eq_bind, Option.bind_eq_some_iff, Option.pure_def, Option.some.injEq] at h
    obtain ⟨c1, h1, c3, h3, c4, h4, rfl⟩ := h
    simp only [List.map_append, names_ite h1, sigFile, apply_ite (List.map _), List.map_cons, List.map_nil,
      sigFormValue_names h3, sigQuery_names h4]

theorem mem_ite_single {α} {c : Prop} [Decidable c] {k : α} (h : c) : k ∈ (if c then [k] else []) := by
  rw [if_pos h]; exact .head _

theorem sigNames_mem {e : Endpoint} (hi : e.input = none) :
    ((e.withForm && !e.formValues.isEmpty) = true → "formParams" ∈ sigNames e) ∧
    ((e.withForm && e.formFile != "") = true → "file" ∈ sigNames e) ∧
    ((e.withForm && e.formJSON.isSome) = true → "formValue" ∈ sigNames e) ∧
    (¬ e.query.isEmpty = true → "params" ∈ sigNames e) := by
  simp only [sigNames, hi, List.mem_append]
  exact ⟨fun h => .inl (.inl (.inl (mem_ite_single h))), fun h => .inl (.inl (.inr (mem_ite_single h))),
    fun h => .inl (.inr (mem_ite_single h)), fun h => .inr (by rw [if_neg h]; exact .head _)⟩

theorem argOf_gen {env e m} (h : genMethod env e = some m) (a : Args) {n : String} (hn : n ∈ sigNames e) :
    argOf m a n = some ((a.lookup n).getD .null) := by
  obtain ⟨sig, _, _, hs, _, rfl⟩ := genMethod_some h
  simp only [argOf, List.contains_iff_mem, typeIn_names env e sig hs, hn, if_true]

/-! ### query parameters -/

/-- **exactly the declared query parameters**, in order -/
theorem C14_query_names (env : Env) (e : Endpoint) (m : Method) (h : genMethod env e = some m) :
    m.query.map (·.1) = e.query.map (·.name) := by
  obtain ⟨_, q, _, _, hq, rfl⟩ := genMethod_some h
  exact List.map_of_mapM (fun _ _ hc => by obtain ⟨_, _, rfl⟩ := Option.map_eq_some_iff.mp hc; rfl) hq

theorem query_isEmpty {env e m} (h : genMethod env e = some m) : m.query.isEmpty = e.query.isEmpty := by
  simpa only [List.isEmpty_map] using congrArg List.isEmpty (C14_query_names env e m h)

/-- **query parameters are sent**, each read from `params` and converted by its kind — provided the
endpoint has no JSON body (the body would take the name `params`) -/
theorem C14_query_sent (env : Env) (e : Endpoint) (m : Method) (a : Args) (h : genMethod env e = some m)
    (hi : e.input = none) :
    queryPart m a = some (if e.query.isEmpty then none else
      some (m.query.map fun (n, c) => (n, applyConv c (field ((a.lookup "params").getD .null) n)))) := by
  unfold queryPart
  rw [query_isEmpty h]
  split
  · rfl
  · rw [argOf_gen h a ((sigNames_mem hi).2.2.2 ‹_›)]; rfl

/-- conversions: numbers through `String`, booleans to 'ok' / '', strings unchanged -/
theorem C14_conversions (n : String) (b : Bool) (s : String) :
    applyConv .toStr (.num n) = .str n ∧ applyConv .okOrEmpty (.bool b) = .str (if b then "ok" else "") ∧
    applyConv .ident (.str s) = .str s := by
  cases b <;> exact ⟨rfl, rfl, rfl⟩

/-! ### body -/

/-- **JSON input** is passed as the body -/
theorem C14_body_json (env : Env) (e : Endpoint) (m : Method) (a : Args) (t : Ty) (h : genMethod env e = some m)
    (hi : e.input = some t) (hf : e.withForm = false) :
    bodyPart m a = some (.json ((a.lookup "params").getD .null)) := by
  rw [bodyPart_gen h, hf, hi, argOf_gen h a (n := "params") (by simp only [sigNames, hi, List.mem_singleton])]
  rfl

/-- **no input**: null for POST / PUT, no body argument otherwise -/
theorem C14_body_none (env : Env) (e : Endpoint) (m : Method) (a : Args) (h : genMethod env e = some m)
    (hi : e.input = none) (hf : e.withForm = false) :
    bodyPart m a = some (if expectBody e.method then .null else .absent) := by
  rw [bodyPart_gen h, hf, hi]; rfl

/-- the entries of the form data, as declared -/
def expectedForm (e : Endpoint) (a : Args) : List (String × FormEntry) :=
  (if e.formFile != "" then [(e.formFile, FormEntry.file ((a.lookup "file").getD .null))] else []) ++
  e.formValues.map (fun k => (k, FormEntry.text (field ((a.lookup "formParams").getD .null) k))) ++
  (match e.formJSON with
   | some p => if p.name != "" then [(p.name, FormEntry.json ((a.lookup "formValue").getD .null))] else []
   | none => [])

theorem formPart_gen {env e m} (h : genMethod env e = some m) (hi : e.input = none) (hf : e.withForm = true)
    (a : Args) : formPart m a = some (expectedForm e a) := by
  obtain ⟨hv, hfl, hj, _⟩ := sigNames_mem hi
  obtain ⟨h1, h2, h3⟩ := genMethod_form h
  refine formPart_some ?_ ?_ ?_
  · unfold formFilePart
    rw [h1]
    split
    · rw [argOf_gen h a (hfl (by rw [hf]; assumption))]; rfl
    · rfl
  · unfold formValuesPart
    rw [h2]
    cases hc : e.formValues.isEmpty
    · rw [argOf_gen h a (hv (by rw [hf, hc]; rfl))]; rfl
    · rw [List.isEmpty_iff.1 hc]; rfl
  · unfold formJSONPart
    rw [h3]
    cases hc : e.formJSON with
    | none => rfl
    | some p =>
      dsimp only [Option.map_some, Option.getD_some]
      split
      · rw [argOf_gen h a (hj (by rw [hf, hc]; rfl))]; rfl
      · rfl

/-- **form data** carries exactly the declared file, values and JSON field — provided the endpoint
has no JSON body -/
theorem C14_body_form (env : Env) (e : Endpoint) (m : Method) (a : Args) (h : genMethod env e = some m)
    (hi : e.input = none) (hf : e.withForm = true) :
    bodyPart m a = some (.form (expectedForm e a)) := by
  rw [bodyPart_gen h, hf, formPart_gen h hi hf]; rfl

/-! ### response handling -/

/-- **return**: true when the handler returns nothing, blob + file name for blob routes (with an
arraybuffer response), the payload otherwise -/
theorem C14_return (env : Env) (e : Endpoint) (m : Method) (h : genMethod env e = some m) :
    m.ret = (if e.ret.isNone then .tru else if e.blob then .blobFile else .data) ∧ m.arraybuffer = e.blob := by
  obtain ⟨_, _, _, _, _, rfl⟩ := genMethod_some h
  exact ⟨rfl, rfl⟩

/-- **the whole request**, for endpoints without a JSON body -/
theorem C14_request (env : Env) (base : String) (e : Endpoint) (m : Method) (a : Args) (h : genMethod env e = some m)
    (hi : e.input = none) :
    perform base m a = some
      { verb := e.method.toLower, url := base ++ e.url,
        body := if e.withForm then .form (expectedForm e a) else if expectBody e.method then .null else .absent,
        query := if e.query.isEmpty then none else
          some (m.query.map fun (n, c) => (n, applyConv c (field ((a.lookup "params").getD .null) n))),
        arraybuffer := e.blob,
        result := if e.ret.isNone then .tru else if e.blob then .blobFile else .data } := by
  refine perform_gen h base (C14_query_sent env e m a h hi) ?_
  split
  · exact C14_body_form env e m a h hi ‹_›
  · exact C14_body_none env e m a h hi (Bool.of_not_eq_true ‹_›)

/-- **the whole request**, JSON body without form data and query parameters -/
theorem C14_request_json (env : Env) (base : String) (e : Endpoint) (m : Method) (a : Args) (t : Ty)
    (h : genMethod env e = some m) (hi : e.input = some t) (hf : e.withForm = false) (hq : e.query = []) :
    perform base m a = some
      { verb := e.method.toLower, url := base ++ e.url, body := .json ((a.lookup "params").getD .null),
        query := none, arraybuffer := e.blob,
        result := if e.ret.isNone then .tru else if e.blob then .blobFile else .data } := by
  refine perform_gen h base ?_ (C14_body_json env e m a t h hi hf)
  unfold queryPart
  rw [query_isEmpty h, hq]; rfl

/-! ### the shapes the guards exclude (recorded findings) -/

def intTy : Ty := .basic "int" .int
def emptyEnv : Env := { pkgPath := "", pkgName := "", source := [], decls := [] }

/-- a JSON body together with a query parameter: the query value is read from the body object -/
example :
    (genMethod emptyEnv { url := "/u", method := "POST", name := "h", input := some intTy, query := [⟨"q", strTy⟩] }).map
      (fun m => (m.sig.map (·.1), m.query.map (·.1))) = some (["params"], ["q"]) := rfl

/-- a JSON body together with form data: the method body uses `formParams`, which the signature
does not declare -/
example :
    ((genMethod emptyEnv { url := "/u", method := "POST", name := "h", input := some intTy, formValues := ["v"] }).bind
      fun m => argOf m [] "formParams") = none := by
  decide

end Gomacro.AxiosGen
