import Gomacro.PgTables
import Gomacro.Lemmas.MapM
/-!
# C08 — The SQL schema is a faithful image of the table structs

The clauses of the documented Go→SQL mapping, as theorems about the schema model
(`Gomacro/PgTables.lean`), which the correspondence runner compares token-wise with the real
CREATE TABLE / CREATE TYPE / ALTER TABLE statements on every synthesised model file.
-/
namespace Gomacro.PgTables
open List Gomacro.IR Gomacro.PgGen

/-! ### type mapping -/

theorem C08_bool (env : Env) (f : Nat) (n : String) : newType env (f + 1) (.basic n .bool) = some (.builtin "boolean" false) := rfl

theorem C08_small_int (env : Env) (f : Nat) (n : String) (h : n = "int16" ∨ n = "uint8") :
    newType env (f + 1) (.basic n .int) = some (.builtin "smallint" false) := by
  rcases h with rfl | rfl <;> simp [newType, basicTypeName]

theorem C08_integer (env : Env) (f : Nat) (n : String) (h1 : n ≠ "int16") (h2 : n ≠ "uint8") (h3 : n ≠ "byte") :
    newType env (f + 1) (.basic n .int) = some (.builtin "integer" false) := by
  simp [newType, basicTypeName, h1, h2, h3]

theorem C08_real (env : Env) (f : Nat) (n : String) : newType env (f + 1) (.basic n .float) = some (.builtin "real" false) := rfl
theorem C08_text (env : Env) (f : Nat) (n : String) : newType env (f + 1) (.basic n .str) = some (.builtin "text" false) := rfl

theorem C08_time (env : Env) (f : Nat) :
    newType env (f + 1) (.time false) = some (.builtin "timestamp (0) with time zone" false) ∧
    newType env (f + 1) (.time true) = some (.builtin "date" false) := ⟨rfl, rfl⟩

theorem C08_bytea (env : Env) (f : Nat) (bk : BKind) :
    newType env (f + 1) (.arr (-1) (.basic "uint8" bk)) = some (.builtin "bytea" false) := by
  simp [newType]

theorem C08_typed_array (env : Env) (f : Nat) (len : Int) (n : String) (bk : BKind) (h1 : n ≠ "uint8") (h2 : n ≠ "byte") :
    newType env (f + 1) (.arr len (.basic n bk)) = some (.array (basicTypeName n bk ++ "[]") len) := by
  simp [newType, h1, h2]

theorem C08_map_json (env : Env) (f : Nat) (k e : Ty) : newType env (f + 1) (.map k e) = some .json := rfl

theorem C08_pointer_refused (env : Env) (f : Nat) (e : Ty) : newType env (f + 1) (.ptr e) = none := rfl

theorem C08_union_json (env : Env) (f : Nat) (q : String) (d : Decl) (ms : List Ty)
    (hd : env.find? q = some d) (hb : d.body = .union ms) : newType env (f + 1) (.ref q) = some .json := by
  simp [newType, hd, hb]

theorem C08_enum (env : Env) (f : Nat) (q : String) (d : Decl) (u : String) (bk : BKind) (ms : List Member) (io : Bool)
    (hd : env.find? q = some d) (hb : d.body = .enum u bk ms io) : newType env (f + 1) (.ref q) = some (.enum q) := by
  simp [newType, hd, hb]

/-- an all-integer struct (which is not a nullable wrapper) is a composite type, any other struct is jsonb -/
theorem C08_struct (env : Env) (f : Nat) (q : String) (d : Decl) (fs : List Field) (cs im)
    (hd : env.find? q = some d) (hb : d.body = .struct fs cs im) (hn : nullXXX fs = none) :
    newType env (f + 1) (.ref q) =
      if fs.all (fun fl => isIntField env fl.ty) then some (.composite q) else some .json := by
  simp [newType, hd, hb, hn]

/-- a nullable wrapper over a basic type is the basic SQL type, nullable -/
theorem C08_null_wrapper (env : Env) (f : Nat) (q : String) (d : Decl) (fs : List Field) (cs im)
    (data : Field) (n : String) (bk : BKind)
    (hd : env.find? q = some d) (hb : d.body = .struct fs cs im) (hn : nullXXX fs = some data)
    (ht : data.ty = .basic n bk) (hk : bk ≠ .none) :
    newType env (f + 1) (.ref q) = some (.builtin (basicTypeName n bk) true) := by
  simp [newType, hd, hb, hn, ht, hk]

/-! ### nullability and per-type CHECKs -/

/-- does the column constraint of this SQL type contain NOT NULL? -/
def hasNotNull : SqlType → Bool
  | .builtin _ nullable => !nullable
  | .array _ len => len ≥ 0
  | _ => true

/-- the constraint text is some per-type CHECK followed by NOT NULL exactly when `hasNotNull` -/
theorem C08_constraint_shape (env : Env) (c : Column) :
    ∃ pre, typeConstraint env c = pre ++ (if hasNotNull c.sql then "NOT NULL" else "") := by
  unfold typeConstraint
  cases hs : c.sql with
  | builtin n nullable => cases nullable <;> exact ⟨"", by simp [hasNotNull]⟩
  | enum q => exact ⟨" CHECK (" ++ c.name ++ " IN " ++ enumTuple env q ++ ") ", by simp [hasNotNull, String.append_assoc]⟩
  | array n len =>
    by_cases hl : len ≥ 0
    · exact ⟨" CHECK (array_length(" ++ c.name ++ ", 1) = " ++ toString len ++ ") ", by simp [hasNotNull, hl, String.append_assoc]⟩
    · exact ⟨"", by simp [hasNotNull, hl]⟩
  | composite q => exact ⟨"", by simp [hasNotNull]⟩
  | json => exact ⟨"", by simp [hasNotNull]⟩

/-- **NOT NULL rule**: a column is NOT NULL unless its Go type is a nullable wrapper or maps to a
variable-length SQL array -/
theorem C08_not_null_rule (st : SqlType) :
    hasNotNull st = false ↔ ((∃ n, st = .builtin n true) ∨ (∃ n len, st = .array n len ∧ len < 0)) := by
  cases st with
  | builtin n nullable => cases nullable <;> simp [hasNotNull]
  | enum q => simp [hasNotNull]
  | array n len =>
    simp only [hasNotNull, decide_eq_false_iff_not, ge_iff_le, Int.not_le, reduceCtorEq, exists_false,
      false_or, SqlType.array.injEq]
    constructor
    · intro h; exact ⟨n, len, ⟨rfl, rfl⟩, h⟩
    · rintro ⟨_, _, ⟨_, rfl⟩, h⟩; exact h
  | composite q => simp [hasNotNull]
  | json => simp [hasNotNull]

/-- enum columns carry a CHECK listing the enum's constants; fixed arrays a length CHECK -/
theorem C08_enum_check (env : Env) (c : Column) (q : String) (h : c.sql = .enum q) :
    typeConstraint env c = " CHECK (" ++ c.name ++ " IN " ++ enumTuple env q ++ ") NOT NULL" := by
  simp [typeConstraint, h]

theorem C08_length_check (env : Env) (c : Column) (n : String) (len : Int) (h : c.sql = .array n len) (hl : 0 ≤ len) :
    typeConstraint env c = " CHECK (array_length(" ++ c.name ++ ", 1) = " ++ toString len ++ ") NOT NULL" := by
  simp [typeConstraint, h, hl]

/-- the id field is a serial primary key, whatever its Go type -/
theorem C08_primary (env : Env) (c : Column) : columnLine env true c = c.name ++ " serial PRIMARY KEY" := by
  simp [columnLine]

/-! ### columns and foreign keys -/

/-- one column per exported or guard field, in field order -/
theorem C08_columns_in_order (env : Env) (fs : List Field) (cols : List Column) (h : columns env fs = some cols) :
    cols.map (·.name) = (fs.filter fun f => isGuard f || f.goExported).map (·.name) :=
  List.map_of_mapM (fun _ _ hc => by obtain ⟨_, _, rfl⟩ := Option.map_eq_some_iff.mp hc; rfl) h

theorem fkOf_field (env : Env) (table : String) (c : Column) (fk : ForeignKey)
    (h : fkOf env table c = some fk) : fk.field = c.name := by
  unfold fkOf at h
  simp only at h
  (repeat' split at h) <;> cases h <;> rfl

/-- **at most one FOREIGN KEY per field**, and only on columns of the table -/
theorem C08_fk_per_field (env : Env) (table : String) (cols : List Column) :
    ((foreignKeys env table cols).map (·.field)).Sublist (cols.map (·.name)) := by
  unfold foreignKeys
  induction cols with
  | nil => simp
  | cons c cs ih =>
    simp only [List.filterMap_cons, List.map_cons]
    cases hfk : fkOf env table c with
    | none => exact ih.cons _
    | some fk =>
      simp only [List.map_cons, fkOf_field env table c fk hfk]
      exact ih.cons_cons _

/-- the foreign key of an ID-typed field targets the table named by the ID type, with the tagged
ON DELETE action -/
theorem C08_fk_target (env : Env) (table : String) (c : Column) (t : String)
    (h : tableIdTarget env c.ty = some t) (h1 : t ≠ "") (h2 : t ≠ table) :
    fkOf env table c = some ⟨c.name, t, Tags.get c.tag "gomacro-sql-on-delete"⟩ := by
  simp [fkOf, h, h1, h2]

/-- a field tagged `gomacro-sql-foreign:"T"` (and not of an ID type) references table T -/
theorem C08_fk_tag (env : Env) (table : String) (c : Column)
    (h : tableIdTarget env c.ty = none) (ht : Tags.get c.tag "gomacro-sql-foreign" ≠ "") :
    fkOf env table c = some ⟨c.name, Tags.get c.tag "gomacro-sql-foreign", Tags.get c.tag "gomacro-sql-on-delete"⟩ := by
  simp [fkOf, h, ht]

end Gomacro.PgTables
