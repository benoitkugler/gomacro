import Gomacro.PgAst
/-!
# C04 — Generated Postgres JSON validators accept what Go emits, reject foreign shapes

Theorems about `PgGen.call`, the semantics of the plpgsql fragment of the six templates (trusted:
no PostgreSQL in the sandbox; three-valued logic, NULL for missing keys, `bool_and` = NULL on zero
rows, left-to-right short-circuit).  Rejection of the five corruption classes is proved per
template together with the propagation of FALSE to the CHECK; acceptance is proved
compositionally (one step per template) and evaluated end to end on every real document by `call`.
`PgAst.step` is one call of a template instance given what the functions it calls answer; `call`
iterates it on the fuel (`call_succ`), and the theorems per template are clauses of `step`.
-/
namespace Gomacro.PgAst
open Gomacro.GoJson Gomacro.PgGen

/-- `jsonb_typeof(x) = 'k'` on a possibly NULL `x` -/
def typeTri (j : Option JVal) (k : String) : Tri :=
  match j with | none => .nul | some v => Tri.ofBool (typeOf v == k)

/-- one call of a template instance, the functions it calls given by `cF` (the body of `PgGen.call`) -/
def step (cF : String → Option JVal → Option Tri) (fd : PgFunc) (arg : Option JVal) : Option Tri :=
  match arg with
  | none =>
    (match fd with
     | .union _ _ => some .ff
     | .struct _ fields => (fields.mapM fun (p : String × String) => cF p.2 none).map fun (rs : List Tri) => rs.foldl Tri.and .nul
     | _ => some .nul)
  | some j =>
    match fd with
    | .basic _ kind => some (if typeOf j == kind then .tt else .ff)
    | .enum _ kind isInt tuple _ =>
      some (if typeOf j == kind && tuple.any (fun it => enumItemMatches isInt it j) then .tt else .ff)
    | .array _ elemFn len =>
      (match j with
       | .null => if len == -1 then some .tt else some .ff
       | .arr l =>
         if len == -1 && l.isEmpty then some .tt
         else
           (l.mapM fun x => cF elemFn (some x)).map fun rs =>
             if len ≥ 0 then Tri.and (boolAnd rs) (if (l.length : Int) == len then .tt else .ff)
             else boolAnd rs
       | _ => some .ff)
    | .map _ elemFn =>
      (match j with
       | .null => some .tt
       | .obj kvs => (kvs.mapM fun (p : String × JVal) => cF elemFn (some p.2)).map fun rs => Tri.and .tt (boolAnd rs)
       | _ => some .ff)
    | .struct _ fields =>
      (match j with
       | .obj kvs =>
         let keysOk := boolAnd (kvs.map fun (k, _) => if fields.isEmpty || fields.any (·.1 == k) then Tri.tt else Tri.ff)
         (fields.mapM fun (p : String × String) => cF p.2 (kvs.lookup p.1)).map fun (rs : List Tri) => rs.foldl Tri.and keysOk
       | _ => some .ff)
    | .union _ cases =>
      (match j with
       | .obj kvs =>
         (match kvs.lookup "Kind", kvs.lookup "Data" with
          | some (.str k), data =>
            if isJsonNull data then some .ff
            else (match cases.lookup k with
              | some vf => cF vf data
              | none => some .ff)
          | some _, _ => some .ff
          | none, _ => some .ff)
       | _ => some .ff)

end Gomacro.PgAst

namespace Gomacro.PgGen
open List Gomacro.GoJson Gomacro.PgAst

/-- `call` is `step` iterated on the fuel -/
theorem call_succ (script : List PgFunc) (n : Nat) (fn : String) (arg : Option JVal) :
    call script (n + 1) fn arg =
      (match lookupFunc script fn with
       | none => none
       | some fd => step (call script n) fd arg) := by
  rw [call]
  cases lookupFunc script fn with
  | none => rfl
  | some fd =>
    cases arg with
    | none => cases fd <;> rfl
    | some j => cases fd <;> rfl

theorem call_of_lookup {script : List PgFunc} {fn : String} {fd : PgFunc} (f : Nat) (arg : Option JVal)
    (h : lookupFunc script fn = some fd) : call script (f + 1) fn arg = step (call script f) fd arg := by
  rw [call_succ, h]

/-! ### FALSE comes out exactly when FALSE goes in -/

theorem and_eq_ff (a b : Tri) : Tri.and a b = .ff ↔ a = .ff ∨ b = .ff := by cases a <;> cases b <;> decide

theorem foldl_and_eq_ff (rs : List Tri) (a : Tri) : rs.foldl Tri.and a = .ff ↔ a = .ff ∨ .ff ∈ rs := by
  induction rs generalizing a with
  | nil => simp
  | cons r rs ih => rw [List.foldl_cons, ih, and_eq_ff, List.mem_cons, or_assoc, @eq_comm _ Tri.ff r]

theorem boolAnd_eq_ff (l : List Tri) : boolAnd l = .ff ↔ .ff ∈ l := by
  simp only [boolAnd]
  by_cases hm : Tri.ff ∈ l
  · have hf : Tri.ff ∈ l.filter (· != .nul) := List.mem_filter.mpr ⟨hm, rfl⟩
    rw [if_neg (fun he => by rw [List.isEmpty_iff.mp he] at hf; cases hf),
      if_neg (fun ha => absurd (List.all_eq_true.mp ha _ hf) (by decide))]
    exact iff_of_true rfl hm
  · refine iff_of_false (fun h => ?_) hm
    -- without a FALSE every row that is not NULL is TRUE
    rw [if_pos (List.all_eq_true.mpr fun x hx => ?_)] at h
    · split at h <;> cases h
    · obtain ⟨hxl, hxn⟩ := List.mem_filter.mp hx
      cases x
      · rfl
      · exact absurd hxl hm
      · cases hxn

theorem foldl_and_of_mem_ff (rs : List Tri) (init : Tri) (h : Tri.ff ∈ rs) : rs.foldl Tri.and init = .ff :=
  (foldl_and_eq_ff rs init).mpr (.inr h)

theorem boolAnd_of_mem_ff (l : List Tri) (h : Tri.ff ∈ l) : boolAnd l = .ff := (boolAnd_eq_ff l).mpr h

/-- a CHECK whose expression is FALSE refuses the row -/
theorem admits_ff : admits (some .ff) = false := rfl

/-! ### the five corruption classes, template by template -/

/-- **wrong JSON kind** at a basic (or time) position -/
theorem C04_reject_wrong_kind (script : List PgFunc) (f : Nat) (fn kind : String) (j : JVal)
    (hdef : lookupFunc script fn = some (.basic fn kind)) (hk : typeOf j ≠ kind) :
    call script (f + 1) fn (some j) = some .ff := by
  rw [call_of_lookup f _ hdef]; exact congrArg some (if_neg fun h => hk (beq_iff_eq.mp h))

/-- **non-member enum value** -/
theorem C04_reject_non_member (script : List PgFunc) (f : Nat) (fn kind : String) (isInt : Bool)
    (tuple : List String) (tid : String) (j : JVal)
    (hdef : lookupFunc script fn = some (.enum fn kind isInt tuple tid))
    (hm : ∀ it ∈ tuple, enumItemMatches isInt it j = false) :
    call script (f + 1) fn (some j) = some .ff := by
  rw [call_of_lookup f _ hdef]
  simp only [step, List.any_eq_false.mpr fun it hit => ne_true_of_eq_false (hm it hit), Bool.and_false, Bool.false_eq_true, if_false]

/-- **unknown union Kind** -/
theorem C04_reject_unknown_kind (script : List PgFunc) (f : Nat) (fn : String) (cases : List (String × String))
    (kvs : List (String × JVal)) (k : String)
    (hdef : lookupFunc script fn = some (.union fn cases))
    (hkind : kvs.lookup "Kind" = some (.str k)) (hno : cases.lookup k = none) :
    call script (f + 1) fn (some (.obj kvs)) = some .ff := by
  rw [call_of_lookup f _ hdef]; simp only [step, hkind, hno, ite_self]

/-- **wrong fixed-array length** -/
theorem C04_reject_wrong_length (script : List PgFunc) (f : Nat) (fn elemFn : String) (len : Int) (l : List JVal)
    (hdef : lookupFunc script fn = some (.array fn elemFn len)) (hlen : 0 ≤ len) (hne : (l.length : Int) ≠ len) :
    call script (f + 1) fn (some (.arr l)) = none ∨ call script (f + 1) fn (some (.arr l)) = some .ff := by
  have h1 : (len == -1) = false := by simp; omega
  rw [call_of_lookup f _ hdef]
  simp only [step, h1, Bool.false_and, Bool.false_eq_true, if_false, ge_iff_le, hlen, if_true, beq_iff_eq, hne, (and_eq_ff _ .ff).mpr (.inr rfl)]
  cases l.mapM (fun x => call script f elemFn (some x)) with
  | none => exact .inl rfl
  | some rs => exact .inr rfl

/-- **unknown object key** in a struct that declares at least one field -/
theorem C04_reject_unknown_key (script : List PgFunc) (f : Nat) (fn : String) (fields : List (String × String))
    (kvs : List (String × JVal)) (k : String) (v : JVal)
    (hdef : lookupFunc script fn = some (.struct fn fields)) (hne : fields ≠ [])
    (hk : (k, v) ∈ kvs) (hunk : ∀ p ∈ fields, p.1 ≠ k) :
    call script (f + 1) fn (some (.obj kvs)) = none ∨ call script (f + 1) fn (some (.obj kvs)) = some .ff := by
  rw [call_of_lookup f _ hdef]; simp only [step]
  cases fields.mapM (fun (p : String × String) => call script f p.2 (kvs.lookup p.1)) with
  | none => exact .inl rfl
  | some rs =>
    refine .inr (congrArg some ?_)
    -- the unknown key makes the key test FALSE, and FALSE survives the chain of ANDs
    rw [boolAnd_of_mem_ff _ (List.mem_map.mpr ⟨(k, v), hk, ?_⟩)]
    · exact (foldl_and_eq_ff rs .ff).mpr (.inl rfl)
    have he : fields.isEmpty = false := List.isEmpty_eq_false_iff.mpr hne
    have ha : fields.any (·.1 == k) = false := List.any_eq_false.mpr fun p hp => by simpa using hunk p hp
    simp only [he, ha, Bool.or_self, Bool.false_eq_true, if_false]

/-! ### acceptance, one step per template -/

/-- a nil slice (`null`) and an empty slice (`[]`) are accepted; a nil map (`null`) too -/
theorem C04_accept_nil_slice (script : List PgFunc) (f : Nat) (fn e : String)
    (hdef : lookupFunc script fn = some (.array fn e (-1))) :
    call script (f + 1) fn (some .null) = some .tt ∧ call script (f + 1) fn (some (.arr [])) = some .tt := by
  rw [call_of_lookup f _ hdef, call_of_lookup f _ hdef]; exact ⟨rfl, rfl⟩

theorem C04_accept_nil_map (script : List PgFunc) (f : Nat) (fn e : String)
    (hdef : lookupFunc script fn = some (.map fn e)) : call script (f + 1) fn (some .null) = some .tt := by
  rw [call_of_lookup f _ hdef]; rfl

/-- a value of the right JSON kind is accepted at a basic position -/
theorem C04_accept_basic (script : List PgFunc) (f : Nat) (fn kind : String) (j : JVal)
    (hdef : lookupFunc script fn = some (.basic fn kind)) (hk : typeOf j = kind) :
    call script (f + 1) fn (some j) = some .tt := by
  rw [call_of_lookup f _ hdef]; exact congrArg some (if_pos (beq_iff_eq.mpr hk))

/-- an enum member is accepted -/
theorem C04_accept_member (script : List PgFunc) (f : Nat) (fn kind : String) (isInt : Bool)
    (tuple : List String) (tid : String) (j : JVal)
    (hdef : lookupFunc script fn = some (.enum fn kind isInt tuple tid))
    (hk : typeOf j = kind) (it : String) (hit : it ∈ tuple) (hm : enumItemMatches isInt it j = true) :
    call script (f + 1) fn (some j) = some .tt := by
  have : tuple.any (fun it => enumItemMatches isInt it j) = true := List.any_eq_true.mpr ⟨it, hit, hm⟩
  rw [call_of_lookup f _ hdef]; simp only [step, hk, this, beq_self_eq_true, Bool.and_self, if_true]

/-- a wrapped union value is accepted exactly as its member document is by the member's validator -/
theorem C04_union_dispatch (script : List PgFunc) (f : Nat) (fn : String) (cases : List (String × String))
    (k vf : String) (d : JVal) (hdef : lookupFunc script fn = some (.union fn cases))
    (hcase : cases.lookup k = some vf) (hnn : d ≠ .null) :
    call script (f + 1) fn (some (.obj [("Data", d), ("Kind", .str k)])) = call script f vf (some d) := by
  rw [call_of_lookup f _ hdef]
  simp only [step, List.lookup, String.reduceBEq, beq_self_eq_true, hcase]
  cases d with
  | null => exact absurd rfl hnn
  | _ => rfl

/-- recorded finding, as a theorem: a member whose document is `null` (a nil named slice or map
held in the union) is refused, although Go emits it -/
theorem union_null_data_refused (script : List PgFunc) (f : Nat) (fn : String) (cases : List (String × String))
    (k : String) (hdef : lookupFunc script fn = some (.union fn cases)) :
    call script (f + 1) fn (some (.obj [("Data", .null), ("Kind", .str k)])) = some .ff := by
  rw [call_of_lookup f _ hdef]; rfl

/-- a missing key is NOT refused (the field validator is called on SQL NULL and yields NULL):
the validators check shapes of what is present, not presence -/
theorem missing_key_is_null (script : List PgFunc) (f : Nat) (fn kind : String)
    (hdef : lookupFunc script fn = some (.basic fn kind)) : call script (f + 1) fn none = some .nul := by
  rw [call_of_lookup f _ hdef]; rfl

/-- **closed script**: every function called from a body is defined -/
theorem C04_closed (script : List PgFunc) (h : closedScript script = true) :
    ∀ fd ∈ script, ∀ g ∈ calledFns fd, (lookupFunc script g).isSome = true := by
  intro fd hfd g hg
  obtain ⟨x, hx, hn⟩ := List.any_eq_true.mp (List.all_eq_true.mp (List.all_eq_true.mp h fd hfd) g hg)
  exact List.find?_isSome.mpr ⟨x, hx, hn⟩

/-- calling an undefined function is an error, never a silent TRUE -/
theorem undefined_function_errors (script : List PgFunc) (f : Nat) (fn : String) (arg : Option JVal)
    (h : lookupFunc script fn = none) : call script (f + 1) fn arg = none := by
  rw [call_succ, h]

end Gomacro.PgGen
