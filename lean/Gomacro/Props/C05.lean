import Gomacro.MiniSql
/-!
# C05 — Generated CRUD code and generated schema agree, statement by statement

* structural theorems about the statement shapes the model emits (placeholders, alignment of the
  returned columns with the scan destinations), evaluated on every *real* statement by the tie;
* behavioural theorems over `MiniSql`: against a table with a serial id, the emitted insert /
  select-by-id / update / delete-by-id statements behave like the map `id ↦ row`.
The lib/pq value conversions and a real PostgreSQL are not covered (none in the sandbox).
-/
namespace Gomacro.CrudGen
open List

theorem mem_phs {p n : Nat} : p ∈ phs n ↔ 1 ≤ p ∧ p ≤ n := by
  simp only [phs, List.mem_map, List.mem_range]
  exact ⟨fun ⟨i, hi, e⟩ => by omega, fun h => ⟨p - 1, by omega, by omega⟩⟩

/-- `$1 … $n` in order, each once, is what `placeholdersOk` asks for -/
theorem placeholdersOk_of_eq (f : Func) (h : f.stmt.placeholders = phs f.nargs) : placeholdersOk f = true := by
  simp only [placeholdersOk, h, Bool.and_eq_true, List.all_eq_true, List.contains_iff_mem, imp_self,
    implies_true, and_true, decide_eq_true_eq]
  exact fun p hp => mem_phs.mp hp

theorem phs_succ (k : Nat) : phs (k + 1) = phs k ++ [k + 1] := by
  simp only [phs, List.range_succ, List.map_append, List.map_cons, List.map_nil]

theorem condPh_keys (ks : List String) :
    (ks.zipIdx.map fun (k, i) => Cond.eq k (i + 1)).map condPh = phs ks.length := by
  rw [List.map_map, phs, List.range_eq_range', ← List.zipIdx_map_snd 0 ks, List.map_map]
  exact List.map_congr_left fun _ _ => rfl

/-- `$1 … $n` in order is accepted by `placeholdersOk` -/
theorem phs_ok (name : String) (t : String) (cols : List String) (r : List String) (n : Nat) :
    placeholdersOk { name := name, stmt := .insert t cols (phs n) r, nargs := n } = true :=
  placeholdersOk_of_eq _ rfl

/-- **UPDATE**: values are `$1 … $k`, the id is `$(k+1)`, and k+1 arguments are passed -/
theorem C05_update_placeholders (name t : String) (cols r : List String) (k : Nat) :
    placeholdersOk { name := name, stmt := .update t cols (phs k) [.eq "id" (k + 1)] r, nargs := k + 1 } = true :=
  placeholdersOk_of_eq _ (phs_succ k).symm

/-- a single `$1` with one argument (by-id and by-key-array statements) -/
theorem C05_single_placeholder (name : String) (s : Stmt) (h : s.placeholders = [1]) :
    placeholdersOk { name := name, stmt := s, nargs := 1 } = true :=
  placeholdersOk_of_eq _ h

/-- composite keys: `k₁ = $1 AND k₂ = $2 …` with one argument per key -/
theorem C05_key_placeholders (name t : String) (cols : List String) (ks : List String) :
    placeholdersOk { name := name, stmt := .select cols t (ks.zipIdx.map fun (k, i) => .eq k (i + 1)), nargs := ks.length } = true :=
  placeholdersOk_of_eq _ (condPh_keys ks)

/-- **scan alignment**: a statement returning the CRUD columns in order is aligned with scan
destinations listed in the same order -/
theorem C05_scan_aligned (scan : List String) (t : String) (conds : List Cond) :
    scanAligned scan (.select (scan.map colName) t conds) = true := by
  simp [scanAligned, Stmt.returned]

/-- **guards excluded**: no guard column among the CRUD columns -/
theorem C05_guards_excluded (cols : List PgTables.Column) :
    ∀ c ∈ crudCols cols, Tags.get c.tag "gomacro-sql-guard" = "" := by
  intro c hc
  simpa [crudCols] using (List.mem_filter.mp hc).2

end Gomacro.CrudGen

namespace Gomacro.MiniSql
open List Gomacro.CrudGen

theorem id_newRow (i : Val) (cols : List String) (phs : List Nat) (args : List Val) :
    Row.id (newRow i cols phs args) = i := by
  simp [newRow, Row.id, Row.get]

theorem satisfies_eq_id (args anyArgs : List Val) (k : Nat) :
    satisfies args anyArgs [Cond.eq "id" k] = fun r => Row.id r == args.getD (k - 1) 0 := by
  funext r
  simp only [satisfies, List.all_cons, List.all_nil, Bool.and_true, holds, Row.id]

theorem satisfies_id (i : Val) : satisfies [i] [] [Cond.eq "id" 1] = fun r => Row.id r == i :=
  satisfies_eq_id [i] [] 1

/-- **insert then select**: the inserted row is found under the id the insert assigned, and the
table stays well-formed (ids unique, below the next id) -/
theorem C05_insert_then_lookup (t : Table) (hwf : WF t) (tn : String) (cols : List String) (phs : List Nat)
    (ret : List String) (args : List Val) :
    lookupId (exec t (.insert tn cols phs ret) args).1 t.nextId = some (newRow t.nextId cols phs args) ∧
    WF (exec t (.insert tn cols phs ret) args).1 := by
  refine ⟨?_, ?_, fun r hr => ?_⟩
  · show (t.rows ++ [newRow t.nextId cols phs args]).find? (fun r => Row.id r == t.nextId) = _
    rw [List.find?_append, List.find?_eq_none.mpr fun r hr => by simpa using Nat.ne_of_lt (hwf.2 r hr)]
    simp [List.find?, id_newRow]
  · show ((t.rows ++ [newRow t.nextId cols phs args]).map Row.id).Nodup
    rw [List.map_append, List.map_singleton, id_newRow]
    refine (List.perm_append_singleton _ _).nodup_iff.mpr (List.nodup_cons.mpr ⟨fun h => ?_, hwf.1⟩)
    obtain ⟨r, hr, e⟩ := List.mem_map.mp h
    exact Nat.lt_irrefl _ (e ▸ hwf.2 r hr)
  · show Row.id r < t.nextId + 1
    rcases List.mem_append.mp hr with hr | hr
    · exact Nat.lt_succ_of_lt (hwf.2 r hr)
    · rw [List.mem_singleton.mp hr, id_newRow]; exact Nat.lt_succ_self _

/-- **select by id** returns exactly the rows stored under that id (at most one when ids are unique) -/
theorem C05_select_by_id (t : Table) (tn : String) (cols : List String) (i : Val) :
    (exec t (.select cols tn [.eq "id" 1]) [i]).2 = (t.rows.filter fun r => Row.id r == i).map (project cols) := by
  simp only [exec, satisfies_id]

/-- the map after a delete by id: `i` is gone, every other id is as before -/
theorem lookupId_delete (t : Table) (tn : String) (ret : List String) (i j : Val) :
    lookupId (exec t (.delete tn [.eq "id" 1] ret) [i]).1 j = if j = i then none else lookupId t j := by
  simp only [exec, satisfies_id, lookupId, List.find?_filter]
  split
  · subst j
    exact List.find?_eq_none.mpr fun r _ => by simp
  · rename_i hj
    congr 1; funext r
    by_cases h : Row.id r = j <;> simp [h, hj]

/-- **delete by id** removes exactly the rows with that id and returns them -/
theorem C05_delete_by_id (t : Table) (tn : String) (ret : List String) (i : Val) :
    (exec t (.delete tn [.eq "id" 1] ret) [i]).2 = (t.rows.filter fun r => Row.id r == i).map (project ret) ∧
    lookupId (exec t (.delete tn [.eq "id" 1] ret) [i]).1 i = none ∧
    ∀ j, j ≠ i → lookupId (exec t (.delete tn [.eq "id" 1] ret) [i]).1 j = lookupId t j :=
  ⟨by simp only [exec, satisfies_id], by rw [lookupId_delete, if_pos rfl],
    fun j hj => by rw [lookupId_delete, if_neg hj]⟩

/-- what an update by id does to one row -/
theorem mem_update (t : Table) (tn : String) (cols : List String) (phs : List Nat) (ret : List String)
    (args : List Val) (k : Nat) (r : Row) (hr : r ∈ t.rows) :
    (if Row.id r = args.getD (k - 1) 0 then newRow (Row.id r) cols phs args else r) ∈
      (exec t (.update tn cols phs [.eq "id" k] ret) args).1.rows := by
  simp only [exec, satisfies_eq_id, beq_iff_eq]
  exact List.mem_map_of_mem hr

/-- **update** replaces the row stored under the id by the new values and keeps its id -/
theorem C05_update_replaces (t : Table) (tn : String) (cols : List String) (phs : List Nat) (ret : List String)
    (args : List Val) (k : Nat) (r : Row) (hr : r ∈ t.rows) (hid : Row.id r = args.getD (k - 1) 0) :
    newRow (Row.id r) cols phs args ∈ (exec t (.update tn cols phs [.eq "id" k] ret) args).1.rows := by
  simpa only [if_pos hid] using mem_update t tn cols phs ret args k r hr

/-- rows with another id are untouched by an update by id -/
theorem C05_update_frame (t : Table) (tn : String) (cols : List String) (phs : List Nat) (ret : List String)
    (args : List Val) (k : Nat) (r : Row) (hr : r ∈ t.rows) (hid : Row.id r ≠ args.getD (k - 1) 0) :
    r ∈ (exec t (.update tn cols phs [.eq "id" k] ret) args).1.rows := by
  simpa only [if_neg hid] using mem_update t tn cols phs ret args k r hr

/-- by-foreign-key / by-key selections return exactly the matching rows -/
theorem C05_select_matching (t : Table) (tn : String) (cols : List String) (conds : List Cond) (args anyArgs : List Val) :
    (exec t (.select cols tn conds) args anyArgs).2 = (t.rows.filter (satisfies args anyArgs conds)).map (project cols) := rfl

/-! non-vacuity: a table with two rows satisfies the invariant -/
example : WF { rows := [[("id", 0), ("a", 5)], [("id", 1), ("a", 7)]], nextId := 2 } := by
  constructor
  · decide +kernel
  · intro r hr; simp at hr; rcases hr with rfl | rfl <;> decide +kernel

end Gomacro.MiniSql
