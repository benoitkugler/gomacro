import Gomacro.Props.C12
import Gomacro.Facts.Generated
/-!
# C18 — Unsupported input is refused with a diagnostic, never a crash

* theorems over the analysis model: no modelled operation ends in a Go runtime error;
* a regenerated obligation: every fixed-width slice and every unchecked type assertion found in
  /repo's non-test sources is one the expectations below account for (with its guard).
Generators are covered by the correspondence runner (outcome classes in a child process).
-/
namespace Gomacro.Analysis
open List Gomacro Gomacro.IR Gomacro.GoFacts

theorem convert_no_crash (fb : FactBase) (hfacts : ∀ q, (fb.type? q).isSome = true) :
    (t : GoTy) → (convert fb t).isCrash = false :=
  C12_convert_no_crash fb hfacts

/-- special comments: an unknown `gomacro:<tag>` is a diagnostic -/
theorem specialComment_no_crash (line : String) : (specialComment line).isCrash = false := by
  unfold specialComment
  dsimp only
  -- no branch is a crash
  repeat' split
  all_goals rfl

theorem structComments_no_crash (fb : FactBase) (tf : TypeFact) :
    (structComments fb tf).isCrash = false := by
  unfold structComments
  split
  · rfl
  · split
    · rfl
    · dsimp only
      cases h : Outcome.mapM' specialComment tf.doc with
      | crash s =>
        exact absurd h (Outcome.isCrash_eq_false.mp
          (Outcome.mapM'_no_crash _ _ fun a _ => specialComment_no_crash a) s)
      | _ => rfl

theorem pkgEnums_no_crash (fb : FactBase) (p : PkgFacts) : (pkgEnums fb p).isCrash = false := by
  unfold pkgEnums
  cases h : Outcome.mapM' constCommentOutcome (p.consts.filter (·.typeQ != "")) with
  | crash s => exact absurd h (Outcome.isCrash_eq_false.mp (Outcome.mapM'_no_crash _ _ fun _ _ => rfl) s)
  | _ => rfl

/-- enum discovery never crashes (after the repair of the constant-comment lookup) -/
theorem C18_enums_no_crash (fb : FactBase) : (allEnums fb).isCrash = false :=
  Outcome.bind_no_crash (Outcome.mapM'_no_crash _ _ fun p _ => pkgEnums_no_crash fb p) fun _ _ => rfl

/-- the source list never crashes -/
theorem C18_source_no_crash (fb : FactBase) (hfacts : ∀ q, (fb.type? q).isSome = true) :
    (sourceTys fb).isCrash = false :=
  Outcome.mapM'_no_crash _ _ (fun s _ => convert_no_crash fb hfacts s.ty)

/-- The defects of the pinned commit, as theorems about the code as it was. -/
theorem constCommentOld_crashes : ∃ c : ConstFact, (constCommentOutcomeOld c).isCrash = true :=
  ⟨{ name := "D", typeQ := "p.E", val := "6", valStr := "6", isInt := true, int := 6, exported := true,
     comment := "", specIndex := 1 }, by decide⟩

end Gomacro.Analysis

namespace Gomacro.Facts
/-! ## Regenerated inventory of unchecked operations

`expected` lists every fixed-width slice (with the guard it sits under) and every unchecked type
assertion of /repo's non-test code, with the reason it cannot fail.  The extractor regenerates
`uncheckedOps` from the current sources on every run; a new or unguarded operation breaks
`C18_sites_covered`. -/

def expected : List (UncheckedOp × String) := [
  (⟨"analysis/analysis.go", "Analysis.createType", "assert", "an.handleType(typ.Underlying(), ctx).(AnonymousType)", ""⟩,
    "underlying of a named non-struct type: Basic/Array/Map/Time are AnonymousType; pointers are refused just above; others panic with a diagnostic inside handleType"),
  (⟨"analysis/analysis.go", "LocalName", "assert", "ty.Type().(*types.Named)", ""⟩, "documented precondition: callers pass Named/Enum/Struct/Union nodes only"),
  (⟨"analysis/analysis.go", "NewPkgSelector", "slice", "chunks[:2]", "len(chunks) >= 2"⟩, "guarded"),
  (⟨"analysis/analysis.go", "commonPrefix", "slice", "paths[1:]", ""⟩, "lower bound 1 on a slice whose element 0 was just read"),
  (⟨"analysis/basics.go", "Basic.Kind", "assert", "b.B.Underlying().(*types.Basic)", ""⟩, "B is a *types.Basic"),
  (⟨"analysis/compounds.go", "fetchStructComments", "assert", "scope.Type().(*types.Named)", ""⟩, "a package-level type name looked up by the name of a Named type"),
  (⟨"analysis/enums.go", "Enum.Underlying", "assert", "e.Type().Underlying().(*types.Basic)", ""⟩, "only basic types have constants (Go spec)"),
  (⟨"analysis/httpapi/parse.go", "parseEndpointFunc", "assert", "fn.(*types.Func)", ""⟩, "C13: identifier in handler position"),
  (⟨"analysis/httpapi/parse.go", "parseEndpointFunc", "assert", "ptr.Elem().(*types.Named)", ""⟩, "C13: receiver of a method value"),
  (⟨"analysis/httpapi/parse.go", "parseEndpointFunc", "assert", "xObj.Type().(*types.Named)", ""⟩, "C13: receiver of a method value"),
  (⟨"analysis/sql/sql.go", "isTableID", "slice", "name[2:]", "len(name) > 2 && strings.HasPrefix(strings.ToLower(name), \"id\")"⟩, "guarded"),
  (⟨"analysis/sql/types.go", "Array.Name", "assert", "ar.A.Elem.(*an.Basic)", ""⟩, "sql.Array is built by newType only for Basic or integer Enum elements; the Enum case is tested first"),
  (⟨"analysis/sql/types.go", "newType", "assert", "time.(*an.Time)", ""⟩, "NewTime returns *Time, or the *Named wrapping it for a named time type, which the statement just before unwraps"),
  (⟨"cmd/gomacro.go", "main", "slice", "fileArgs[1:]", ""⟩, "len(fileArgs) >= 1 checked above"),
  (⟨"generator/dart/typedecls.go", "lowerFirst", "slice", "s[0:1]", ""⟩, "early return on the empty string"),
  (⟨"generator/dart/typedecls.go", "lowerFirst", "slice", "s[1:]", ""⟩, "early return on the empty string"),
  (⟨"generator/generator.go", "ReplaceEnums", "slice", "s[2 : len(s)-1]", ""⟩, "s matches #\\[(\\w+)\\.(\\w+)\\] : at least 6 bytes"),
  (⟨"generator/go/gounions/gounions.go", "context.codeForNamed", "assert", "typ.Type().(*types.Named)", ""⟩, "Named node"),
  (⟨"generator/go/gounions/gounions.go", "context.codeForStruct", "assert", "st.Type().(*types.Named)", ""⟩, "Struct node"),
  (⟨"generator/go/gounions/gounions.go", "context.codeForUnion", "assert", "u.Type().(*types.Named)", ""⟩, "Union node"),
  (⟨"generator/go/gounions/gounions.go", "jsonForArray", "assert", "ar.Elem.(*an.Union)", ""⟩, "called under that very test in codeForNamed"),
  (⟨"generator/go/gounions/gounions.go", "jsonForArray", "assert", "typ.Underlying.(*an.Array)", ""⟩, "called under that very test in codeForNamed"),
  (⟨"generator/go/gounions/gounions.go", "jsonForMap", "assert", "ar.Elem.(*an.Union)", ""⟩, "called under that very test in codeForNamed"),
  (⟨"generator/go/gounions/gounions.go", "jsonForMap", "assert", "typ.Type().(*types.Named)", ""⟩, "Named node"),
  (⟨"generator/go/gounions/gounions.go", "jsonForMap", "assert", "typ.Underlying.(*an.Map)", ""⟩, "called under that very test in codeForNamed"),
  (⟨"generator/go/gounions/gounions.go", "jsonForUnion", "slice", "unionPrefix[0:2]", "len(unionPrefix) > 2"⟩, "guarded"),
  (⟨"generator/go/randdata/data.go", "context.functionID", "assert", "ty.Type().(*types.Named)", ""⟩, "Named/Enum/Struct/Union node"),
  (⟨"generator/go/randdata/data.go", "functionIDBasicOrNamed", "slice", "packageName[:3]", "len(packageName) > 3"⟩, "guarded"),
  (⟨"generator/go/sqlcrud/sql.go", "context.compositeConverters", "assert", "composite.Type().(*an.Struct)", ""⟩, "sql.Composite wraps a *Struct"),
  (⟨"generator/sql/json.go", "codeForUnion", "assert", "member.Type().(*types.Named)", ""⟩, "union members are named types"),
  (⟨"generator/sql/json.go", "idFromNamed", "slice", "pkg[:4]", "len(pkg) > 4"⟩, "guarded"),
  (⟨"generator/sql/json.go", "typeIDRec", "assert", "ty.Type().(*types.Named)", ""⟩, "Struct/Enum/Union node"),
  (⟨"generator/sql/tables.go", "compositeDecl", "assert", "cp.Type().(*an.Struct)", ""⟩, "sql.Composite wraps a *Struct"),
  (⟨"generator/sql/tables.go", "generateTable", "assert", "composite.Type().(*an.Struct)", ""⟩, "sql.Composite wraps a *Struct"),
  (⟨"generator/typescript/axios_api.go", "asObjectKey", "assert", "t.Underlying.(*an.Basic)", ""⟩, "C14: typed query parameters are basic or named basic")
]

/-- every operation found in the current sources is accounted for, guard included -/
def sitesCovered : Bool := uncheckedOps.all fun op => expected.any fun e => e.1 == op

/-- **regenerated obligation** -/
theorem C18_sites_covered : sitesCovered = true := by decide +kernel

end Gomacro.Facts
