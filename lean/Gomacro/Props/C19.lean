import Gomacro.Lemmas.Decls
/-!
# C19 — Declaration assembly is a set-like, order-independent merge

Property theorems only.  Model: `Gomacro/Decls.lean` (`WriteResult` = every admissible
behaviour of `generator.WriteDeclarations`, the unstable `sort.Slice` being *any*
ID-sorted permutation of the input).
-/
namespace Gomacro.Decls
open List

theorem stablePrio_perm (s : List Decl) : (stablePrio s).Perm s := filter_append_perm _ _

theorem mem_prioIds {l : List Decl} {i : String} :
    i ∈ (l.filter (·.prio)).map (·.id) ↔ hasPrio l i = true := by
  simp only [hasPrio, mem_map, mem_filter, any_eq_true, Bool.and_eq_true, beq_iff_eq]
  exact ⟨fun ⟨d, ⟨h, p⟩, e⟩ => ⟨d, h, e, p⟩, fun ⟨d, h, e, p⟩ => ⟨d, ⟨h, p⟩, e⟩⟩

/-- ids emitted = priority ids ascending, then the other ids ascending: on both sides the two
halves are strictly increasing, so it is enough that they have the same members -/
theorem emitted_ids_eq {input s : List Decl} (hp : s.Perm input) (hs : SortedById s) :
    (emitted s).map (·.id) = specOrder input := by
  have hprio i : i ∈ (s.filter (·.prio)).map (·.id) ↔ hasPrio input i = true := by
    rw [mem_prioIds, hasPrio, hasPrio, hp.any_eq]
  have hmem i : i ∈ input.map (·.id) ↔
      i ∈ (s.filter (·.prio)).map (·.id) ∨ i ∈ (s.filter (!·.prio)).map (·.id) := by
    rw [← mem_append, ← map_append, ((filter_append_perm _ s).map _).mem_iff, (hp.map _).mem_iff]
  unfold emitted stablePrio specOrder
  rw [dedupFirst_append, map_append]
  congr 1 <;>
    refine strict_sorted_ext (strict_dedupFirst_ids (hs.sublist filter_sublist))
      ((pairwise_sortedIds _).sublist filter_sublist) fun i => ?_
  · rw [mem_dedupFirst_ids, mem_filter, mem_sortedIds, hmem, hprio]
    simp only [not_mem_nil, not_false_eq_true, and_true]
    exact ⟨fun h => ⟨.inl h, h⟩, fun h => h.2⟩
  · rw [mem_dedupFirst_ids, append_nil, mem_reverse, mem_dedupFirst_ids, mem_filter, mem_sortedIds,
      hmem, hprio]
    cases hasPrio input i <;> simp

theorem emitted_subset {s : List Decl} : ∀ d ∈ emitted s, d ∈ s := fun _ hd =>
  (stablePrio_perm s).subset ((dedupFirst_sublist _ _).subset hd)

theorem contentOf_eq {input : List Decl} (hc : Consistent input) {d : Decl} (hd : d ∈ input) :
    contentOf input d.id = d.content := by
  unfold contentOf
  split
  next e hf => exact hc e (mem_of_find?_eq_some hf) d hd (beq_iff_eq.mp (find?_some hf :))
  next hf => exact absurd (find?_eq_none.mp hf d hd) (by simp)

/-- **C19 (spec equality).** Whatever ID-sorted permutation the unstable sort returns, the text
is: for every distinct ID exactly once its content and a newline, the IDs having a priority
declaration first in increasing order, then the others in increasing order. -/
theorem C19_spec {input : List Decl} {out : String}
    (hc : Consistent input) (h : WriteResult input out) : out = spec input := by
  obtain ⟨s, hp, hs, rfl⟩ := h
  unfold render spec
  rw [← emitted_ids_eq hp hs, List.map_map]
  congr 1
  apply List.map_congr_left
  intro d hd
  simp only [Function.comp]
  rw [contentOf_eq hc (hp.subset (emitted_subset d hd))]

/-- **C19 (order independence).** -/
theorem C19_perm {a b : List Decl} {o₁ o₂ : String} (hc : Consistent a) (hab : a.Perm b)
    (h₁ : WriteResult a o₁) (h₂ : WriteResult b o₂) : o₁ = o₂ := by
  have h₂' : WriteResult a o₂ := by
    obtain ⟨s, hp, hs, e⟩ := h₂
    exact ⟨s, hp.trans hab.symm, hs, e⟩
  rw [C19_spec hc h₁, C19_spec hc h₂']

/-- the executable instance is one admissible behaviour (so `WriteResult` is inhabited) -/
theorem writeDecls_mem (input : List Decl) : WriteResult input (writeDecls input) :=
  ⟨_, List.mergeSort_perm _ _, pairwise_mergeSort_key Decl.id input, rfl⟩

theorem C19_total (input : List Decl) : ∃ out, WriteResult input out :=
  ⟨_, writeDecls_mem input⟩

theorem C19_writeDecls_eq_spec {input : List Decl} (hc : Consistent input) :
    writeDecls input = spec input := C19_spec hc (writeDecls_mem input)

/-- each distinct id is emitted exactly once -/
theorem C19_exactly_once {input s : List Decl} (hp : s.Perm input) :
    ((emitted s).map (·.id)).Nodup ∧ ∀ i, i ∈ (emitted s).map (·.id) ↔ i ∈ input.map (·.id) := by
  refine ⟨nodup_dedupFirst_ids _ _, fun i => ?_⟩
  rw [emitted, mem_dedupFirst_ids, ((stablePrio_perm s).map _).mem_iff, (hp.map _).mem_iff]
  simp

/-- shape of the specification order: two strictly increasing runs, priority ids first -/
theorem C19_spec_order (input : List Decl) :
    ∃ P O, specOrder input = P ++ O ∧ P.Pairwise (· < ·) ∧ O.Pairwise (· < ·) ∧
      (∀ i, i ∈ P ↔ i ∈ input.map (·.id) ∧ hasPrio input i = true) ∧
      (∀ i, i ∈ O ↔ i ∈ input.map (·.id) ∧ hasPrio input i = false) :=
  ⟨_, _, rfl, (pairwise_sortedIds _).sublist filter_sublist,
    (pairwise_sortedIds _).sublist filter_sublist, fun i => by rw [mem_filter, mem_sortedIds],
    fun i => by rw [mem_filter, mem_sortedIds, Bool.not_eq_true']⟩

/-! non-vacuity: a consistent input with equal IDs of different priority -/
example : Consistent [⟨"b", "B", false⟩, ⟨"a", "A", false⟩, ⟨"b", "B", true⟩] := by
  intro a ha b hb h
  simp only [List.mem_cons, List.not_mem_nil, or_false] at ha hb
  rcases ha with rfl | rfl | rfl <;> rcases hb with rfl | rfl | rfl <;> simp_all

example : spec [⟨"b", "B", false⟩, ⟨"a", "A", false⟩, ⟨"b", "B", true⟩] = "B\nA\n" := by decide +kernel

end Gomacro.Decls
