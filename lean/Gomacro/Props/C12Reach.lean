import Gomacro.Props.C12
/-!
# C12 — finite and closed, unconditionally

`Reach`: an abstract worklist loop (`expandG` adds the successors of every visited node, `reachG`
repeats it until a round adds nothing, with fuel) reaches a set closed under the successor relation
as soon as its fuel exceeds the number of nodes that have successors (`reachG_closed`: each round
that adds something completes one more keyed node — a strictly decreasing potential).
`C12_reach_closed` instantiates it for the analysis model (`fb.types.length + 1` rounds), and
`C12_analysis_succeeds` concludes that the model never runs out of fuel: when the enums and the
source list convert and every referred name has facts, `analyse` returns an environment, which
`C12_closed` says is closed. The recursive descent of the Go code is tied to it differentially.
-/
namespace Gomacro.Analysis.Reach

def addNew (a : List String) (r : String) : List String := if a.contains r then a else a ++ [r]

def expandG (succ : String → List String) (visited : List String) : List String :=
  visited.foldl (fun acc q => (succ q).foldl addNew acc) visited

def reachG (succ : String → List String) : Nat → List String → List String
  | 0, v => v
  | n + 1, v =>
    let v' := expandG succ v
    if v'.length == v.length then v else reachG succ n v'

theorem mem_addNew {a : List String} {r x : String} : x ∈ addNew a r ↔ x ∈ a ∨ x = r := by
  unfold addNew; split
  · rename_i h
    exact ⟨Or.inl, fun h' => h'.elim id (· ▸ List.contains_iff_mem.mp h)⟩
  · simp

theorem mem_foldAdd {x : String} : ∀ {rs a : List String}, x ∈ rs.foldl addNew a ↔ x ∈ a ∨ x ∈ rs
  | [], a => by simp
  | r :: rs, a => by
    rw [List.foldl_cons, mem_foldAdd, mem_addNew, List.mem_cons, or_assoc]

/-- the accumulator only grows at its end, so an unchanged length is an unchanged list -/
theorem foldAdd_prefix : ∀ (rs a : List String), a <+: rs.foldl addNew a
  | [], a => List.prefix_refl a
  | r :: rs, a => by
    refine List.IsPrefix.trans ?_ (foldAdd_prefix rs (addNew a r))
    unfold addNew; split
    · exact List.prefix_refl a
    · exact List.prefix_append a _

theorem foldAdd_same : ∀ (rs a : List String), (∀ r ∈ rs, r ∈ a) → rs.foldl addNew a = a
  | [], _, _ => rfl
  | x :: xs, a, h => by
    have hx : addNew a x = a := by simp [addNew, h x List.mem_cons_self]
    rw [List.foldl_cons, hx]
    exact foldAdd_same xs a (fun r hr => h r (List.mem_cons_of_mem _ hr))

theorem foldAdd_len_eq {rs a : List String} : (rs.foldl addNew a).length = a.length ↔ ∀ r ∈ rs, r ∈ a :=
  ⟨fun h r hr => by
    have := (foldAdd_prefix rs a).eq_of_length h.symm
    rw [this]; exact mem_foldAdd.mpr (Or.inr hr),
   fun h => by rw [foldAdd_same rs a h]⟩

/-- closed under the successor relation -/
def Closed (succ : String → List String) (v : List String) : Prop := ∀ q ∈ v, ∀ r ∈ succ q, r ∈ v

/-- one round adds, in order, every successor of every visited node -/
theorem expandG_eq (succ : String → List String) (v : List String) :
    expandG succ v = (v.flatMap succ).foldl addNew v := List.foldl_flatMap.symm

theorem mem_expandG {succ : String → List String} {v : List String} {x : String} :
    x ∈ expandG succ v ↔ x ∈ v ∨ ∃ q ∈ v, x ∈ succ q := by
  rw [expandG_eq, mem_foldAdd, List.mem_flatMap]

theorem expandG_fix {succ : String → List String} {v : List String} :
    (expandG succ v).length = v.length ↔ Closed succ v := by
  rw [expandG_eq, foldAdd_len_eq]
  simp only [List.mem_flatMap, forall_exists_index, and_imp]
  exact ⟨fun h q hq r hr => h r q hq hr, fun h r q hq hr => h q hq r hr⟩

/-! the potential: keyed nodes that are in the set with all their successors -/

def done (succ : String → List String) (v : List String) (q : String) : Bool :=
  v.contains q && (succ q).all v.contains

def count (succ : String → List String) (keys v : List String) : Nat := (keys.filter (done succ v)).length

theorem done_iff {succ : String → List String} {v : List String} {q : String} :
    done succ v q = true ↔ q ∈ v ∧ ∀ r ∈ succ q, r ∈ v := by
  simp only [done, Bool.and_eq_true, List.contains_iff_mem, List.all_eq_true]

theorem filter_len_strict {α} {p p' : α → Bool} (hpp : ∀ x, p x = true → p' x = true) {l : List α}
    (h : ∃ x ∈ l, p x = false ∧ p' x = true) : (l.filter p).length < (l.filter p').length := by
  have : l.filter p = (l.filter p').filter p := by
    rw [List.filter_filter]
    exact List.filter_congr fun x _ => by cases hp : p x <;> simp [hpp x, hp]
  rw [this, List.length_filter_lt_length_iff_exists]
  obtain ⟨x, hx, hp, hp'⟩ := h
  exact ⟨x, List.mem_filter.mpr ⟨hx, hp'⟩, by simp [hp]⟩

/-- a round that adds something finishes one more keyed node -/
theorem count_lt (succ : String → List String) (keys v : List String)
    (hkeys : ∀ q, succ q ≠ [] → q ∈ keys)
    (hgrow : (expandG succ v).length ≠ v.length) :
    count succ keys v < count succ keys (expandG succ v) := by
  have hsub : ∀ x ∈ v, x ∈ expandG succ v := fun x hx => mem_expandG.mpr (Or.inl hx)
  -- `v` is not closed: some node of `v` has a successor outside `v`
  obtain ⟨q, hq, r, hr, hrv⟩ : ∃ q, q ∈ v ∧ ∃ r, r ∈ succ q ∧ r ∉ v := by
    simpa [Closed] using mt expandG_fix.mpr hgrow
  refine filter_len_strict (fun k hk => ?_) ⟨q, hkeys q (List.ne_nil_of_mem hr), ?_, ?_⟩
  · exact done_iff.mpr ⟨hsub k (done_iff.mp hk).1, fun r hr => hsub r ((done_iff.mp hk).2 r hr)⟩
  · exact Bool.eq_false_iff.mpr fun hd => hrv ((done_iff.mp hd).2 r hr)
  · exact done_iff.mpr ⟨hsub q hq, fun r' hr' => mem_expandG.mpr (Or.inr ⟨q, hq, hr'⟩)⟩

/-- **the loop reaches a fixpoint**: with more fuel than keyed nodes not yet finished, the result
is closed under the successor relation -/
theorem reachG_closed (succ : String → List String) (keys : List String)
    (hkeys : ∀ q, succ q ≠ [] → q ∈ keys) :
    ∀ (n : Nat) (v : List String), keys.length - count succ keys v < n → Closed succ (reachG succ n v)
  | 0, _, h => by omega
  | n + 1, v, h => by
    simp only [reachG, beq_iff_eq]
    split
    · exact expandG_fix.mp ‹_›
    · apply reachG_closed succ keys hkeys n
      have h1 := count_lt succ keys v hkeys ‹_›
      have h2 : count succ keys (expandG succ v) ≤ keys.length := List.length_filter_le _ _
      omega

theorem reachG_sub (succ : String → List String) : ∀ (n : Nat) (v : List String), ∀ x ∈ v, x ∈ reachG succ n v
  | 0, _, x, hx => hx
  | n + 1, v, x, hx => by
    simp only [reachG]
    split
    · exact hx
    · exact reachG_sub succ n _ x (mem_expandG.mpr (Or.inl hx))

end Gomacro.Analysis.Reach

namespace Gomacro.Analysis
open List Gomacro Gomacro.IR Gomacro.GoFacts

/-- what one visited name adds to the set: the references of its declaration, and its embedded types -/
def succOf (fb : FactBase) (enums : List EnumInfo) (unions : List (String × List String)) (q : String) : List String :=
  match fb.type? q with
  | none => []
  | some tf => refsOfOutcome (declOf fb enums unions tf) ++ (if tf.underStr == timeString then [] else embeddedRefs tf)

theorem expand_eq (fb : FactBase) (enums : List EnumInfo) (unions : List (String × List String)) (v : List String) :
    expand fb enums unions v = Reach.expandG (succOf fb enums unions) v := by
  unfold expand Reach.expandG
  congr 1
  funext acc q
  unfold succOf
  cases fb.type? q <;> rfl

theorem reachAux_eq (fb : FactBase) (enums : List EnumInfo) (unions : List (String × List String)) :
    ∀ (n : Nat) (v : List String), reachAux fb enums unions n v = Reach.reachG (succOf fb enums unions) n v
  | 0, _ => rfl
  | n + 1, v => by
    simp only [reachAux, Reach.reachG, expand_eq]
    split
    · rfl
    · exact reachAux_eq fb enums unions n _

theorem type?_mem (fb : FactBase) (q : String) (tf : TypeFact) (h : fb.type? q = some tf) :
    tf ∈ fb.types ∧ tf.q = q := by
  unfold FactBase.type? at h
  exact ⟨List.mem_of_find?_eq_some h, by simpa using List.find?_some h⟩

/-- **finite**: the reachability loop of the analysis model, with one unit of fuel more than there
are named types, stops on a set closed under "refers to" -/
theorem C12_reach_closed (fb : FactBase) (enums : List EnumInfo) (unions : List (String × List String))
    (start : List String) :
    Reach.Closed (succOf fb enums unions) (reachAux fb enums unions (fb.types.length + 1) start) := by
  rw [reachAux_eq]
  apply Reach.reachG_closed (succOf fb enums unions) (fb.types.map (·.q))
  · intro q hq
    unfold succOf at hq
    cases h : fb.type? q with
    | none => simp [h] at hq
    | some tf =>
      obtain ⟨hm, hq'⟩ := type?_mem fb q tf h
      exact List.mem_map.mpr ⟨tf, hm, hq'⟩
  · simp only [List.length_map]
    omega


/-- every name the program refers to is the name of a type with facts (what the go/types walker
guarantees: it records every named type it meets) -/
def RefsHaveFacts (fb : FactBase) (enums : List EnumInfo) (unions : List (String × List String)) (src : List Ty) : Prop :=
  ∀ q, (q ∈ src.flatMap Ty.refs ∨ ∃ p, q ∈ succOf fb enums unions p) → (fb.type? q).isSome = true

/-- the back-links `analyse` writes into struct declarations change neither names nor references -/
theorem relink_q_refs (impl : String → List String) (d : Decl) :
    (match d.body with
      | .struct fs cs _ => { d with body := .struct fs cs (impl d.q) }
      | _ => d).q = d.q ∧
    (match d.body with
      | .struct fs cs _ => { d with body := .struct fs cs (impl d.q) }
      | _ => d).body.refs = d.body.refs := by
  split <;> simp [Body.refs, *]

/-- **closed, unconditionally**: when the enums and the source list convert, the analysis model
succeeds — its reachability loop never runs out of fuel: the environment it returns is closed -/
theorem C12_analysis_succeeds (fb : FactBase) (enums : List EnumInfo) (src : List Ty)
    (he : allEnums fb = .ok enums) (hs : sourceTys fb = .ok src)
    (hfacts : RefsHaveFacts fb enums (allUnions fb) src) :
    ∃ r, analyse fb = .ok r := by
  unfold analyse
  simp -zeta only [he]
  extract_lets unions
  simp -zeta only [hs]
  extract_lets start reach outcomes decls failures unionQs decls'
  suffices hcl : closedB src decls' (failures.map (·.1)) = true by rw [if_pos hcl]; exact ⟨_, rfl⟩
  -- a reachable name with facts is a declaration of the result or a recorded failure
  have hok : ∀ q ∈ reach, (fb.type? q).isSome = true →
      (decls'.any (·.q == q) || (failures.map (·.1)).contains q) = true := by
    intro q hq hsome
    obtain ⟨tf, htf⟩ := Option.isSome_iff_exists.mp hsome
    have hout : (q, declOf fb enums unions tf) ∈ outcomes :=
      List.mem_filterMap.mpr ⟨q, hq, by rw [htf]; rfl⟩
    rw [Bool.or_eq_true, List.any_eq_true, List.contains_iff_mem]
    cases ho : declOf fb enums unions tf with
    | ok d =>
      rw [ho] at hout
      refine .inl ⟨_, List.mem_map_of_mem (List.mem_filterMap.mpr ⟨_, hout, rfl⟩), beq_iff_eq.mpr ?_⟩
      exact (relink_q_refs _ d).1.trans
        ((C12_decl_identity fb enums unions tf d ho).1.trans (type?_mem fb q tf htf).2)
    | diag m | crash m =>
      rw [ho] at hout
      exact .inr (List.mem_map.mpr ⟨_, List.mem_filterMap.mpr ⟨_, hout, rfl⟩, rfl⟩)
  -- the references of a declaration of the result are successors of a reachable name
  have hsucc : ∀ d' ∈ decls', ∀ r ∈ d'.body.refs, ∃ p ∈ reach, r ∈ succOf fb enums unions p := by
    intro d' hd' r hr
    obtain ⟨d, hd, rfl⟩ := List.mem_map.mp hd'
    obtain ⟨⟨p, o⟩, hpo, hsome⟩ := List.mem_filterMap.mp hd
    obtain ⟨p', hp', hmap⟩ := List.mem_filterMap.mp hpo
    cases htf : fb.type? p' with
    | none => rw [htf] at hmap; cases hmap
    | some tf =>
      rw [htf] at hmap
      obtain ⟨rfl, rfl⟩ := Prod.mk.inj (Option.some.inj hmap)
      cases ho : declOf fb enums unions tf with
      | ok d0 =>
        rw [ho] at hsome
        cases hsome
        refine ⟨p', hp', ?_⟩
        simp only [succOf, htf, ho, refsOfOutcome]
        exact List.mem_append_left _ ((relink_q_refs _ d).2 ▸ hr)
      | diag m | crash m => rw [ho] at hsome; cases hsome
  simp only [closedB, Bool.and_eq_true, List.all_eq_true]
  refine ⟨fun t ht q hq => ?_, fun d' hd' r hr => ?_⟩
  · have hm : q ∈ src.flatMap Ty.refs := List.mem_flatMap.mpr ⟨t, ht, hq⟩
    refine hok q ?_ (hfacts q (.inl hm))
    show q ∈ reachAux fb enums unions (fb.types.length + 1) start
    rw [reachAux_eq]
    exact Reach.reachG_sub _ _ _ q (List.mem_eraseDups.mpr hm)
  · obtain ⟨p, hp, hrp⟩ := hsucc d' hd' r hr
    exact hok r (C12_reach_closed fb enums unions _ p hp r hrp) (hfacts r (.inr ⟨p, hrp⟩))

end Gomacro.Analysis
