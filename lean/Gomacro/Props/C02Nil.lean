import Gomacro.Lemmas.Decode
import Gomacro.Lemmas.Fragment
import Gomacro.Lemmas.Assoc
import Gomacro.Props.C02Quote
/-!
# C02, end to end: the round trip

`round_trip`: in a program of the fragment `RoundTrip.FragmentN`, `json.Unmarshal` (model
`RoundTrip.decode`, with the generated `UnmarshalJSON` methods) of the document `json.Marshal`
(`GoJson.encode`) writes for a strictly typed value succeeds and gives a value equal to it modulo
nil (`eqNil`) — and equal to it outright when nothing on the way touches nil-ness (`Exact`: no
`omitempty`, no named container with generated element-wise methods). `C02_round_trip_mod_nil` is
its first half; the exact theorem `C02_round_trip` of `Props/C02E2E.lean` its second.
Induction on the common fuel, over both kinds of position (`E2E.pos`).
-/
namespace Gomacro.RoundTrip
open Gomacro.IR Gomacro.GoJson Gomacro.E2E

attribute [local irreducible] Tags.jsonName  -- see `Lemmas/Encode.lean`

theorem fragmentN_of_check (env : Env) (w : Wrappers) (ds : List Decl) (h : fragmentNB env w ds = true) : FragmentN env w ds := by
  simp only [fragmentNB, Bool.and_eq_true, List.all_eq_true, decide_eq_true_eq, List.any_eq_true, beq_iff_eq] at h
  exact { found := h.1.1, closed := h.1.2, ok := h.2 }

variable (env : Env) (w : Wrappers) (ds : List Decl)

/-- reading back the document of `v` at type `t` in a position `wr` gives a value equal modulo nil -/
def Back (n : Nat) (wr : Bool) (t : Ty) (v : GoVal) : Prop :=
  ∃ v', decode env w n wr t (encode env w n wr t v) = some v' ∧ eqNil v v' = true

/-- the statement at fuel `n` -/
def RTN (n : Nat) : Prop :=
  ∀ t v, TyIn ds t → noUnion env t = true → shapeRT t = true → wt env n t v = true → Back env w n false t v

/-- nothing between a value and its document changes nil-ness: no named slice / map is written
through generated element-wise methods (a nil one comes back empty), no field is `omitempty` (an
empty slice comes back nil) -/
def Exact : Prop :=
  w.nameds = [] ∧ ∀ d ∈ ds, ∀ fs cs im, d.body = .struct fs cs im → ∀ f ∈ serialised fs, isOmit f = false

/-- `Back`, and the value itself comes back in an `Exact` program -/
def BackX (n : Nat) (wr : Bool) (t : Ty) (v : GoVal) : Prop :=
  ∃ v', decode env w n wr t (encode env w n wr t v) = some v' ∧ eqNil v v' = true ∧ (Exact w ds → v' = v)

/-- the statement at fuel `n`, in both kinds of position -/
def RTX (n : Nat) : Prop :=
  ∀ wr t v, TyIn ds t → pos env wr t = true → shapeRT t = true → wt env n t v = true → BackX env w ds n wr t v

section
variable {env} {w} {ds} {n : Nat}

/-! ### lists, entries, scalars -/

theorem decodeList_map (X : Prop) (wr : Bool) (e : Ty) : ∀ (es : List GoVal),
    (∀ x ∈ es, ∃ x', decode env w n wr e (encode env w n wr e x) = some x' ∧ eqNil x x' = true ∧ (X → x' = x)) →
    ∃ es', decodeList env w n wr e (es.map (encode env w n wr e)) = some es' ∧ eqNilList es es' = true ∧
      es'.length = es.length ∧ (X → es' = es)
  | [], _ => ⟨[], by simp [decodeList], by simp [eqNilList], rfl, fun _ => rfl⟩
  | v :: vs, h => by
    obtain ⟨v', hv', he, hx⟩ := h v (by simp)
    obtain ⟨vs', hvs', hes, hl, hxs⟩ := decodeList_map X wr e vs fun x hx => h x (by simp [hx])
    exact ⟨v' :: vs', by simp only [List.map_cons, decodeList, hv', hvs'], by simp [eqNilList, he, hes], by simp [hl],
      fun hX => by rw [hx hX, hxs hX]⟩

theorem decodeKey_keyString {k : Ty} {key : GoVal} (h : keyOk k key = true) :
    decodeKey k (keyString key) = some key ∧ eqNil key key = true := by
  cases k with
  | basic g bk => cases bk <;> cases key <;> simp_all [keyOk, decodeKey, keyString, eqNil]
  | _ => cases key <;> simp [keyOk] at h

theorem decodeEntries_map (X : Prop) (wr : Bool) (k e : Ty) : ∀ (kvs : List (GoVal × GoVal)),
    (∀ kv ∈ kvs, keyOk k kv.1 = true ∧
      ∃ x', decode env w n wr e (encode env w n wr e kv.2) = some x' ∧ eqNil kv.2 x' = true ∧ (X → x' = kv.2)) →
    ∃ kvs', decodeEntries env w n wr k e (kvs.map fun kv => (keyString kv.1, encode env w n wr e kv.2)) = some kvs' ∧
      eqNilEntries kvs kvs' = true ∧ (X → kvs' = kvs)
  | [], _ => ⟨[], by simp [decodeEntries], by simp [eqNilEntries], fun _ => rfl⟩
  | (key, v) :: rest, h => by
    obtain ⟨hko, v', hv', he, hx⟩ := h (key, v) (by simp)
    obtain ⟨hk, hkk⟩ := decodeKey_keyString hko
    obtain ⟨rest', hr', hre, hxr⟩ := decodeEntries_map X wr k e rest fun kv hkv => h kv (by simp [hkv])
    exact ⟨(key, v') :: rest', by simp only [List.map_cons, decodeEntries, hk, hv', hr'],
      by simp [eqNilEntries, hkk, he, hre], fun hX => by rw [hx hX, hxr hX]⟩

theorem eqNil_scalar {bk : BKind} {v : GoVal} (h : kindMatches bk v = true) : eqNil v v = true := by
  rcases kindMatches_cases h with ⟨-, b, rfl⟩ | ⟨-, r, rfl⟩ | ⟨-, r, rfl⟩ | ⟨-, s, rfl⟩ <;> simp [eqNil]

theorem backX_scalar {wr : Bool} {t : Ty} {v : GoVal} {bk : BKind} (hk : kindMatches bk v = true)
    (henc : encode env w (n + 1) wr t v = scalarDoc v) (hdec : ∀ j, decode env w (n + 1) wr t j = decodeScalar bk j) :
    BackX env w ds (n + 1) wr t v :=
  ⟨v, by rw [henc, hdec, decodeScalar_scalarDoc hk], eqNil_scalar hk, fun _ => rfl⟩

/-! ### anonymous types -/

theorem rt_arr (hg : RTX env w ds n) {k : Int} {e : Ty} {v : GoVal}
    (hin : TyIn ds (.arr k e)) (hpe : pos env false e = true) (hs : shapeRT (.arr k e) = true)
    (ht : wt env (n + 1) (.arr k e) v = true) : BackX env w ds (n + 1) false (.arr k e) v := by
  rcases wt_arr.mp ht with ⟨nl, b, rfl, hk, hb, hn⟩ | ⟨nl, es, rfl, hnb, hlen, hn, hall⟩
  · -- `[]byte`
    cases nl
    · exact ⟨.bytes false b, by simp [encode_bytes, decode_arr_str, hk, hb], by simp [eqNil], fun _ => rfl⟩
    · cases hn rfl
      exact ⟨.bytes true "", by simp [encode_bytes, decode_arr_null, hk, hb], by simp [eqNil], fun _ => rfl⟩
  · obtain ⟨es', hl, hes, hlen', hx⟩ := decodeList_map (Exact w ds) false e es fun x hx =>
      hg false e x (tyIn_arr hin) hpe hs (hall x hx)
    rw [BackX, encode_arr]
    by_cases hneg : k < 0
    · simp only [hneg, decide_true, Bool.true_and]
      cases nl
      · exact ⟨.list true false es', by simp [decode_arr, hl, hneg], by simp [eqNil, hes], fun hX => by rw [hx hX]⟩
      · obtain ⟨-, rfl⟩ := hn rfl
        exact ⟨.list true true [], by simp [decode_arr_null, hneg, hnb hneg], by simp [eqNil, eqNilList], fun _ => rfl⟩
    · have hnl : nl = false := by cases nl <;> simp_all
      subst hnl
      simp only [hneg, decide_false, Bool.false_and, Bool.false_eq_true, if_false]
      exact ⟨.list false false es', by simp [decode_arr, hl, hneg, hlen', hlen.resolve_left hneg],
        by simp [eqNil, hes], fun hX => by rw [hx hX]⟩

theorem rt_map (hg : RTX env w ds n) {k e : Ty} {v : GoVal}
    (hin : TyIn ds (.map k e)) (hpe : pos env false e = true) (hs : shapeRT (.map k e) = true)
    (ht : wt env (n + 1) (.map k e) v = true) : BackX env w ds (n + 1) false (.map k e) v := by
  obtain ⟨nl, kvs, rfl, hn, hall⟩ := wt_map.mp ht
  simp only [shapeRT, Bool.and_eq_true] at hs
  obtain ⟨kvs', hl, he, hx⟩ := decodeEntries_map (Exact w ds) false k e kvs fun kv hkv =>
    ⟨(hall kv hkv).1, hg false e kv.2 (tyIn_map hin).2 hpe hs.2 (hall kv hkv).2⟩
  rw [BackX, encode_map]
  cases nl
  · exact ⟨.map false kvs', by simp [decode_map, hl], by simp [eqNil, he], fun hX => by rw [hx hX]⟩
  · cases hn rfl
    exact ⟨.map true [], by simp [decode_map_null], by simp [eqNil, eqNilEntries], fun _ => rfl⟩

end

/-! ### named types, enums, unions -/

section
variable {env} {w} {ds} {n : Nat}

variable (F : FragmentN env w ds)
include F

theorem tyIn_child {d : Decl} (hd : d ∈ ds) {t : Ty} (ht : t ∈ rtChildTys d) : TyIn ds t :=
  tyIn_of_closed (F.closed d hd) ht

/-- a union value in a wrapped position -/
theorem rt_union (hg : RTX env w ds n) {ud : Decl} (hud : ud ∈ ds) {ms : List Ty} (hb : ud.body = .union ms) {v : GoVal}
    (ht : wt env (n + 1) (.ref ud.q) v = true) : BackX env w ds (n + 1) true (.ref ud.q) v := by
  have hf := F.found ud hud
  have hok := F.ok ud hud
  simp only [declOkN, hb, Bool.and_eq_true, List.all_eq_true] at hok
  obtain ⟨name, mv, rfl, hany, hmv⟩ := (wt_union hf hb).mp ht
  have hchild : ∀ m ∈ ms, m ∈ rtChildTys ud := fun m hm => by simp [rtChildTys, TsGen.childTys, hb, hm]
  obtain ⟨md, hmd, hmt, hmem, -⟩ := memberTy_of_any F.found hb (fun m hm => by
    have hr := (hok.1 m hm).2
    cases m <;> simp at hr
    exact tyIn_ref.mp (tyIn_child F hud (hchild _ hm)) |>.imp fun md h => ⟨h.1, by rw [h.2]⟩) hany
  rw [hmt] at hmv
  obtain ⟨mv', hdata, heq, hx⟩ := hg false _ mv (tyIn_ref.mpr ⟨md, hmd, rfl⟩)
    (hok.1 _ hmem).1 rfl hmv
  exact ⟨.iface (some (name, mv')), by rw [encode_union hf hb, if_pos rfl, decode_union hf hb, hmt, hdata]; rfl,
    by simp [eqNil, heq], fun hX => by rw [hx hX]⟩

theorem rt_named (hg : RTX env w ds n) {d : Decl} (hd : d ∈ ds) {u : Ty} (hb : d.body = .named u) {v : GoVal}
    (ht : wt env (n + 1) (.ref d.q) v = true) : BackX env w ds (n + 1) false (.ref d.q) v := by
  have hf := F.found d hd
  have hok := F.ok d hd
  rw [wt_named hf hb] at ht
  have hin : TyIn ds u := by
    by_cases hint : ∃ g, u = .basic g .int
    · obtain ⟨g, rfl⟩ := hint; intro r hr; simp [Ty.refs] at hr
    · refine tyIn_child F hd ?_
      cases u with
      | basic g bk => cases bk <;> first | exact absurd ⟨g, rfl⟩ hint | simp [rtChildTys, TsGen.childTys, hb]
      | _ => simp [rtChildTys, TsGen.childTys, hb]
  simp only [declOkN, hb] at hok
  by_cases hw : w.nameds.contains d.q = true
  · -- the generated methods of a named slice / map of unions, never `Exact`: the elements are encoded
    -- with the fuel `n`, one more than the typing of the container leaves for them
    have hnX : Exact w ds → False := fun hX => by simp [hX.1] at hw
    replace ht := wt_mono env n _ _ ht
    rw [if_pos hw] at hok
    split at hok
    · simp only [Bool.and_eq_true, decide_eq_true_eq] at hok
      rcases wt_arr.mp ht with ⟨nl, b, rfl, -, hbyte, -⟩ | ⟨nl, es, rfl, -, -, hn, hall⟩
      · simp [isByteElem] at hbyte
      · obtain ⟨es', hl, hes, -, -⟩ := decodeList_map (Exact w ds) true _ es fun x hx =>
          hg true _ x (tyIn_arr hin) hok.2 rfl (hall x hx)
        rw [BackX, encode_namedSlice hf hb hw, decode_namedSlice hf hb hw]
        simp only [hok.1, decide_true, Bool.true_and]
        cases nl
        · exact ⟨.list true false es', by simp [hl], by simp [eqNil, hes], fun hX => (hnX hX).elim⟩
        · obtain ⟨-, rfl⟩ := hn rfl
          exact ⟨.list true false [], by simp [decodeList], by simp [eqNil, eqNilList], fun hX => (hnX hX).elim⟩
    · simp only [Bool.and_eq_true] at hok
      obtain ⟨nl, kvs, rfl, -, hall⟩ := wt_map.mp ht
      obtain ⟨kvs', hl, hes, -⟩ := decodeEntries_map (Exact w ds) true _ _ kvs fun kv hkv =>
        ⟨(hall kv hkv).1, hg true _ kv.2 (tyIn_map hin).2 hok.2 rfl (hall kv hkv).2⟩
      exact ⟨.map false kvs', by rw [encode_namedMap hf hb hw, decode_namedMap hf hb hw, hl]; rfl,
        by simp [eqNil, hes], fun hX => (hnX hX).elim⟩
    · cases hok
  · rw [if_neg hw, Bool.and_eq_true] at hok
    have hw := Bool.not_eq_true _ ▸ hw
    obtain ⟨v', hv', he, hx⟩ := hg false u v hin hok.2 hok.1 ht
    exact ⟨v', by rw [encode_named hf hb hw, decode_named hf hb hw]; exact hv', he, hx⟩

end

/-! ### structs: `omitempty` and the zero value -/

theorem empty_zero : ∀ (n : Nat) (t : Ty) (v : GoVal), wt env n t v = true → isEmptyVal v = true →
    eqNil v (zeroVal env n t) = true
  | 0, _, _, h, _ => by simp [wt] at h
  | n + 1, t, v, h, he => by
    cases t with
    | basic g bk =>
      rw [wt_basic] at h
      rw [zeroVal_basic, ← empty_scalar h he]
      exact eqNil_scalar h
    | time d => obtain ⟨s, rfl⟩ := wt_time h; simp [isEmptyVal] at he
    | arr k e =>
      rw [zeroVal_arr]
      rcases wt_arr.mp h with ⟨nl, b, rfl, hk, hb, -⟩ | ⟨nl, es, rfl, hnb, hlen, -, -⟩
      · obtain rfl : b = "" := by simpa [isEmptyVal] using he
        simp [hk, hb, eqNil]
      · obtain rfl : es = [] := by cases hd : decide (k < 0) <;> simpa [isEmptyVal, hd] using he
        by_cases hneg : k < 0
        · simp [hneg, hnb hneg, eqNil, eqNilList]
        · have h0 : k.toNat = 0 := by simpa using (hlen.resolve_left hneg).symm
          simp [hneg, h0, eqNil, eqNilList]
    | map k e =>
      obtain ⟨nl, kvs, rfl, -, -⟩ := wt_map.mp h
      obtain rfl : kvs = [] := by simpa [isEmptyVal] using he
      simp [zeroVal_map, eqNil, eqNilEntries]
    | ptr e => simp [wt] at h
    | ref q =>
      cases hf : env.find? q with
      | none => simp [wt, hf] at h
      | some d =>
        cases hb : d.body with
        | named u =>
          rw [wt_named hf hb] at h
          rw [zeroVal_named hf hb]
          exact empty_zero n u v h he
        | enum un bk ms io =>
          rw [wt_enum hf hb, Bool.and_eq_true] at h
          rw [zeroVal_enum hf hb, ← empty_scalar h.2 he]
          exact eqNil_scalar h.2
        | struct fs cs impls =>
          obtain ⟨vals, rfl, -⟩ := (wt_struct hf hb).mp h
          simp [isEmptyVal] at he
        | union ms =>
          obtain ⟨name, mv, rfl, -⟩ := (wt_union hf hb).mp h
          simp [isEmptyVal] at he

section
variable {env} {w} {ds} {n : Nat}

/-- reading the fields back from a document in which, for every serialised field, what is under its
key — or the zero value when the key is missing — is read as a value equal to the field's modulo nil
(and equal to it when `X`) -/
theorem decodeFields_spec (X : Prop) (m : Nat) (sh : Bool) (E : List (String × JVal)) :
    ∀ (fs : List Field) (vals : List (String × GoVal)), wtFields env m fs vals = true →
      (∀ f ∈ serialised fs, ∀ v, (f.name, v) ∈ vals → ∃ v',
        (match E.lookup (fkey f) with
          | none => some (zeroVal env n f.ty)
          | some j => (Unquote.fieldDoc env f j).bind (decode env w n (sh && isUnionTy env f.ty) f.ty)) = some v' ∧
        eqNil v v' = true ∧ (X → v' = v)) →
      ∃ vals', decodeFields env w n sh fs E = some vals' ∧ eqNilFields vals vals' = true ∧ (X → vals' = vals)
  | [], vals, h, _ => by
    have : vals = [] := by simpa [wtFields] using h
    subst this; exact ⟨[], by simp [decodeFields], by simp [eqNilFields], fun _ => rfl⟩
  | f :: fs, vals, h, hall => by
    unfold wtFields at h
    unfold decodeFields
    by_cases hs : RoundTrip.isSer f = true
    · have hfs : f ∈ serialised (f :: fs) := mem_serialised.mpr ⟨List.mem_cons_self, hs⟩
      have hsub : ∀ g ∈ serialised fs, g ∈ serialised (f :: fs) := fun g hg =>
        mem_serialised.mpr ⟨List.mem_cons_of_mem _ (mem_serialised.mp hg).1, (mem_serialised.mp hg).2⟩
      rw [if_pos hs] at h ⊢
      cases vals with
      | nil => cases h
      | cons p rest =>
        obtain ⟨nm, v⟩ := p
        simp only [Bool.and_eq_true, beq_iff_eq] at h
        obtain ⟨⟨rfl, -⟩, hrest⟩ := h
        obtain ⟨rest', hr', hre, hxr⟩ := decodeFields_spec X m sh E fs rest hrest fun g hg v' hv' =>
          hall g (hsub g hg) v' (List.mem_cons_of_mem _ hv')
        obtain ⟨v', hv', he, hx⟩ := hall f hfs v List.mem_cons_self
        refine ⟨(f.name, v') :: rest', ?_, by simp [eqNilFields, he, hre], fun hX => by rw [hx hX, hxr hX]⟩
        cases hl : E.lookup (RoundTrip.fkey f) <;> rw [show E.lookup (fkey f) = _ from hl] at hv' <;> simp_all
    · rw [if_neg hs] at h ⊢
      exact decodeFields_spec X m sh E fs vals h fun g hg v' hv' =>
        hall g (mem_serialised.mpr ⟨List.mem_cons_of_mem _ (mem_serialised.mp hg).1, (mem_serialised.mp hg).2⟩) v' hv'

theorem lookup_of_mem_nodup {β} : ∀ (l : List (String × β)) (k : String) (v : β), (l.map (·.1)).Nodup → (k, v) ∈ l →
    l.lookup k = some v := fun _ _ _ nd h => (lookup_eq_some_iff_mem nd).mpr h

theorem rt_struct (F : FragmentN env w ds) (hg : RTX env w ds n) {d : Decl} (hd : d ∈ ds)
    {fs : List Field} {cs : List IR.Comment} {im : List String} (hb : d.body = .struct fs cs im) {v : GoVal}
    (ht : wt env (n + 1) (.ref d.q) v = true) : BackX env w ds (n + 1) false (.ref d.q) v := by
  have hf := F.found d hd
  obtain ⟨vals, rfl, hty⟩ := (wt_struct hf hb).mp ht
  have hok := F.ok d hd
  simp only [declOkN, hb, Bool.and_eq_true, List.all_eq_true, decide_eq_true_eq] at hok
  obtain ⟨⟨⟨hfields, hnd⟩, hndn⟩, hwrap⟩ := hok
  have hkey : ∀ f ∈ serialised fs, ∀ k, Tags.goJsonKey f.tag f.name f.goExported = some k → k = E2E.fkey f := fun f hfs _ => by
    have := (hfields f hfs).1.1
    simp only [fieldOkS, Bool.and_eq_true] at this
    exact fkey_of_key this.2
  have hvnd : (vals.map (·.1)).Nodup := by rw [wtFields_names fs vals hty]; exact hndn
  obtain ⟨vals', hdv, hev, hxv⟩ := decodeFields_spec (env := env) (w := w) (n := n) (Exact w ds) n (w.structs.contains d.q)
    (encodeFields env w n (w.structs.contains d.q) fs vals) fs vals hty (by
    intro f hfs fv hfv
    obtain ⟨⟨hsok, hshape⟩, hpos⟩ := hfields f hfs
    -- the value of the field is well typed
    obtain ⟨fv', hfv', hwt⟩ := wtFields_mem fs vals hty f hfs
    obtain rfl : fv' = fv := Option.some.inj ((lookup_of_mem_nodup vals f.name fv' hvnd hfv').symm.trans
      (lookup_of_mem_nodup vals f.name fv hvnd hfv))
    rw [show RoundTrip.fkey f = E2E.fkey f from rfl, encodeFields_lookup hkey hnd hfs (lookup_of_mem_nodup vals f.name fv' hvnd hfv)]
    by_cases hom : ((tagOptions f.tag).contains "omitempty" && isEmptyVal fv') = true
    · -- omitted as empty: the zero value is read
      rw [if_pos hom]
      simp only [Bool.and_eq_true] at hom
      exact ⟨_, rfl, empty_zero env n f.ty fv' hwt hom.2, fun hX => by
        have := hX.2 d hd fs cs im hb f hfs
        rw [isOmit, hom.1] at this
        cases this⟩
    · rw [if_neg hom]
      dsimp only
      obtain ⟨bv, hbv, hbe, hbx⟩ := hg _ f.ty fv'
        (tyIn_child F hd (by simp only [rtChildTys, hb]; exact List.mem_map.mpr ⟨f, hfs, rfl⟩))
        (pos_field ((Bool.or_eq_true _ _).mp hpos) fun hu => hwrap (List.any_eq_true.mpr ⟨f, hfs, hu⟩)) hshape hwt
      simp only [fieldOkS, Bool.and_eq_true] at hsok
      exact ⟨bv, by rw [Unquote.fieldDoc_quoteIf env w f n _ fv' hsok.1 hwt]; exact hbv, hbe, hbx⟩)
  exact ⟨.struct vals', by rw [encode_struct hf hb, decode_struct hf hb, hdv]; rfl, by simp [eqNil, hev],
    fun hX => by rw [hxv hX]⟩

end

/-! ### the theorem -/

/-- **the round trip**, in both kinds of position, with the exact half -/
theorem round_trip (F : FragmentN env w ds) : ∀ n, RTX env w ds n
  | 0 => fun _ _ _ _ _ _ ht => by simp [wt] at ht
  | n + 1 => fun wr t v hin hpos hs ht => by
    have hg := round_trip F n
    cases pos_view F.found hin hpos with
    | basic g bk => exact backX_scalar (wt_basic g bk v ▸ ht) (encode_basic _ _ _ _) (decode_basic _ _ _)
    | time d =>
      obtain ⟨s, rfl⟩ := wt_time ht
      exact ⟨.time s, by rw [encode_time, decode_time], by simp [eqNil], fun _ => rfl⟩
    | arr hpe => exact rt_arr hg hin hpe hs ht
    | map hpe => exact rt_map hg hin hpe hs ht
    | named hd hb => exact rt_named F hg hd hb ht
    | struct hd hb => exact rt_struct F hg hd hb ht
    | enum hd hb =>
      have hf := F.found _ hd
      exact backX_scalar (by rw [wt_enum hf hb, Bool.and_eq_true] at ht; exact ht.2) (encode_enum hf hb _ _)
        (decode_enum hf hb _)
    | union hd hb => exact rt_union F hg hd hb ht

/-- **C02, round trip modulo nil, on the larger fragment** (`omitempty`, the `string` option,
`gomacro:"ignore"`, empty structs, `[]byte`, zero-length arrays, and named slices / maps of unions
with their generated element-wise methods included): for every type over the declarations of a program in the fragment
and every strictly typed Go value, `json.Unmarshal` of the document `json.Marshal` writes — both
with the generated methods — succeeds and gives a value deeply equal to the original, a nil and an
empty slice or map counting as equal. -/
theorem C02_round_trip_mod_nil (F : FragmentN env w ds) : ∀ n, RTN env w ds n := fun n t v hin hnu hs ht =>
  let ⟨v', h, he, _⟩ := round_trip env w ds F n false t v hin hnu hs ht
  ⟨v', h, he⟩

/-- **as evaluated per program**: when the decidable check holds, every strictly typed value of
every non-union source type is read back, modulo nil, from its own document -/
theorem C02_round_trip_mod_nil_checked (h : fragmentNB env w ds = true) (n : Nat) (q : String) (v : GoVal)
    (hq : ∃ d ∈ ds, d.q = q) (hnu : isUnionTy env (.ref q) = false) (ht : wt env n (.ref q) v = true) :
    ∃ v', decode env w n false (.ref q) (encode env w n false (.ref q) v) = some v' ∧ eqNil v v' = true :=
  C02_round_trip_mod_nil env w ds (fragmentN_of_check env w ds h) n (.ref q) v (tyIn_ref.mpr hq)
    (by simp [noUnion, hnu]) (by simp [shapeRT]) ht

end Gomacro.RoundTrip
