import Gomacro.Paths
/-!
# C17 — the common root is a real ancestor of every file

Property theorems about the root computation (`commonAll`).  `packages.Load` itself is not
modelled: loading is covered by the correspondence runner only.
-/
namespace Gomacro.Paths
open List

theorem prefix_common2 {α} [DecidableEq α] {c a b : List α} :
    c <+: common2 a b ↔ c <+: a ∧ c <+: b := by
  induction c generalizing a b with
  | nil => simp
  | cons x xs ih =>
    match a, b with
    | [], _ | _ :: _, [] => simp [common2]
    | y :: ys, z :: zs =>
      unfold common2
      split
      next e => subst e; simp only [cons_prefix_cons, ih]; exact and_and_left
      next hne =>
        simp only [cons_prefix_cons, prefix_nil, reduceCtorEq, false_iff, not_and]
        rintro ⟨rfl, _⟩ ⟨rfl, _⟩; exact absurd rfl hne

theorem common2_prefix_left {α} [DecidableEq α] (a b : List α) : common2 a b <+: a :=
  (prefix_common2.mp (prefix_refl _)).1

theorem common2_prefix_right {α} [DecidableEq α] (a b : List α) : common2 a b <+: b :=
  (prefix_common2.mp (prefix_refl _)).2

theorem prefix_foldl_common2 {α} [DecidableEq α] {c p : List α} {ps : List (List α)} :
    c <+: ps.foldl common2 p ↔ c <+: p ∧ ∀ d ∈ ps, c <+: d := by
  induction ps generalizing p with
  | nil => simp
  | cons q qs ih => simp [ih, prefix_common2, and_assoc]

/-- the root is the greatest lower bound of the directories in the prefix order -/
theorem prefix_commonAll {c : List String} {ds : List (List String)} (hne : ds ≠ []) :
    c <+: commonAll ds ↔ ∀ d ∈ ds, c <+: d := by
  cases ds with
  | nil => exact absurd rfl hne
  | cons p ps => simp [commonAll, prefix_foldl_common2]

/-- **C17 (ancestor).** The root is a component-wise prefix — an ancestor directory or the
directory itself — of every directory it was computed from, whatever the directories are called. -/
theorem C17_root_ancestor (ds : List (List String)) : ∀ d ∈ ds, commonAll ds <+: d := by
  cases ds with
  | nil => simp
  | cons p ps => exact (prefix_commonAll (cons_ne_nil p ps)).mp (prefix_refl _)

/-- **C17 (deepest).** Every common ancestor is an ancestor of the root: the root is the
deepest common directory. -/
theorem C17_root_greatest {c : List String} {ds : List (List String)} (hne : ds ≠ [])
    (h : ∀ d ∈ ds, c <+: d) : c <+: commonAll ds := (prefix_commonAll hne).mpr h

/-- a file system: a set of directories closed under taking (non-empty) ancestors -/
def PrefixClosed (fs : List String → Prop) : Prop :=
  ∀ d, fs d → ∀ p, p <+: d → p ≠ [] → fs p

/-- absolute paths start with the empty component (`"/a"` splits to `["", "a"]`) -/
def Absolute (d : List String) : Prop := ∃ t, d = "" :: t

theorem absolute_iff {d : List String} : Absolute d ↔ [""] <+: d :=
  ⟨fun ⟨t, e⟩ => ⟨t, e.symm⟩, fun ⟨t, e⟩ => ⟨t, e.symm⟩⟩

/-- **C17 (non-empty).** For absolute directories the root is itself absolute. -/
theorem C17_root_absolute {ds : List (List String)} (hne : ds ≠ []) (h : ∀ d ∈ ds, Absolute d) :
    Absolute (commonAll ds) :=
  absolute_iff.mpr ((prefix_commonAll hne).mpr fun d hd => absolute_iff.mp (h d hd))

/-- **C17 (exists).** If all the directories exist in a prefix-closed file system, so does the root. -/
theorem C17_root_exists {fs : List String → Prop} (hfs : PrefixClosed fs)
    {ds : List (List String)} (hne : ds ≠ []) (habs : ∀ d ∈ ds, Absolute d)
    (hin : ∀ d ∈ ds, fs d) : fs (commonAll ds) := by
  obtain ⟨p, hp⟩ := List.exists_mem_of_ne_nil ds hne
  obtain ⟨t, ht⟩ := C17_root_absolute hne habs
  exact hfs p (hin p hp) _ (C17_root_ancestor ds p hp) (by rw [ht]; simp)

/-- structural split of a character list at '/' -/
def comps : List Char → List (List Char)
  | [] => [[]]
  | c :: cs =>
    if c = '/' then [] :: comps cs
    else match comps cs with
      | [] => [[c]]
      | h :: t => (c :: h) :: t

/-- The defect of the pinned commit, as a theorem: the byte-wise common prefix of two sibling
directories sharing a name prefix is not a whole-component ancestor of them
(`/s/foo` for `/s/foo1` and `/s/foo2`). -/
theorem bytewise_not_ancestor :
    ∃ a b : List Char, (comps (bytewise [a, b])).isPrefixOf (comps a) = false := by
  refine ⟨"/s/foo1".toList, "/s/foo2".toList, ?_⟩
  rw [String.toList_ofList, String.toList_ofList]
  decide +kernel

/-! non-vacuity -/
example : commonAll [["", "s", "foo1"], ["", "s", "foo2"], ["", "s", "foo1", "x"]] = ["", "s"] := by decide
example : Absolute ["", "s", "foo1"] := ⟨_, rfl⟩

end Gomacro.Paths
