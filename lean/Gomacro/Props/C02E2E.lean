import Gomacro.Props.C02Nil
/-!
# C02, end to end: the exact round trip

`C02_round_trip`: for a program in the fragment (`RoundTrip.FragmentRT`: decidable, the same
declaration conditions as the C03 end-to-end theorem, closed over every serialised field), for every
type over its declarations and every strictly typed Go value, `decode (encode v) = some v` — the
decoder is the model of `json.Unmarshal` with the generated `UnmarshalJSON` methods
(`RoundTrip.decode`), the encoder the model of `json.Marshal` with the generated `MarshalJSON`
methods (`GoJson.encode`). A program of `FragmentRT` is a program of `FragmentN` in which nothing
touches nil-ness (`Exact`): the theorem is the exact half of `round_trip` (`Props/C02Nil.lean`).
-/
namespace Gomacro.RoundTrip
open Gomacro.IR Gomacro.GoJson Gomacro.E2E

theorem fragmentRT_of_check (env : Env) (w : Wrappers) (ds : List Decl) (h : fragmentRTB env w ds = true) : FragmentRT env w ds := by
  simp only [fragmentRTB, Bool.and_eq_true, List.all_eq_true, decide_eq_true_eq, List.any_eq_true, beq_iff_eq,
    List.isEmpty_iff] at h
  exact { nameds := h.1.1.1, found := h.1.1.2, closed := h.1.2, ok := h.2 }

variable (env : Env) (w : Wrappers) (ds : List Decl)

/-- the statement at fuel `n`: decoding the document of a value gives the value back -/
def RT (n : Nat) : Prop :=
  ∀ t v, TyIn ds t → noUnion env t = true → shapeOk t = true → wt env n t v = true →
    decode env w n false t (encode env w n false t v) = some v

theorem wtAll_mem (n : Nat) (e : Ty) : ∀ (es : List GoVal), wtAll env n e es = true → ∀ v ∈ es, wt env n e v = true :=
  fun es h => List.all_eq_true.mp (wtAll_eq e es ▸ h)

theorem isSer_eq (f : Field) : RoundTrip.isSer f = E2E.isSer f := rfl
theorem fkey_eq (f : Field) : RoundTrip.fkey f = E2E.fkey f := rfl

section
variable {env} {w} {ds}

theorem shapeRT_of_shapeOk : ∀ {t : Ty}, shapeOk t = true → shapeRT t = true
  | .arr _ e, h => by
    simp only [shapeOk, Bool.and_eq_true] at h
    simpa [shapeRT] using shapeRT_of_shapeOk h.1.2
  | .map k e, h => by
    have he : shapeRT e = true := shapeRT_of_shapeOk (by simp only [shapeOk, Bool.and_eq_true] at h; exact h.2)
    cases k with
    | basic g bk => cases bk <;> simp_all [shapeOk, shapeRT]
    | _ => simp [shapeOk] at h
  | .ptr _, h => by simp [shapeOk] at h
  | .basic _ bk, h => by cases bk <;> simp_all [shapeOk, shapeRT]
  | .time _, _ => rfl
  | .ref _, _ => rfl

variable (F : FragmentRT env w ds)
include F

/-- the conditions of `FragmentRT` are those of `FragmentN`, with more refused -/
theorem FragmentRT.fragmentN : FragmentN env w ds where
  found := F.found
  closed := F.closed
  ok d hd := by
    have hok := F.ok d hd
    cases hb : d.body with
    | named u =>
      simp only [declOk, hb, F.nameds, List.contains_nil, Bool.false_eq_true, if_false, Bool.and_eq_true] at hok
      simp [declOkN, hb, F.nameds, shapeRT_of_shapeOk hok.1.1, hok.1.2]
    | enum un bk ms io => simp [declOkN, hb]
    | union ms =>
      simp only [declOk, hb, Bool.and_eq_true, List.all_eq_true, decide_eq_true_eq] at hok
      simp only [declOkN, hb, Bool.and_eq_true, List.all_eq_true, decide_eq_true_eq]
      refine ⟨fun m hm => ⟨(hok.1 m hm).1, ?_⟩, hok.2⟩
      have := (hok.1 m hm).2
      cases m <;> simp_all
    | struct fs cs im =>
      simp only [declOk, hb, Bool.and_eq_true, List.all_eq_true, decide_eq_true_eq] at hok
      obtain ⟨⟨⟨⟨-, hfields⟩, hnd⟩, hndn⟩, hwrap⟩ := hok
      simp only [declOkN, hb, Bool.and_eq_true, List.all_eq_true, decide_eq_true_eq]
      refine ⟨⟨⟨fun f hf => ?_, hnd⟩, hndn⟩, hwrap⟩
      obtain ⟨hp, hty⟩ := hfields f hf
      simp only [plainField, Bool.and_eq_true, Bool.not_eq_true'] at hp
      simp only [fieldTyOk, Bool.and_eq_true] at hty
      simp only [fieldOkS, keyOkN, hp.1.1.2, hp.2, Bool.not_false, Bool.true_or, Bool.and_self,
        shapeRT_of_shapeOk hty.1, hty.2, and_self]

theorem FragmentRT.exact : Exact w ds :=
  ⟨F.nameds, fun d hd fs cs im hb f hf => by
    have hok := F.ok d hd
    simp only [declOk, hb, Bool.and_eq_true, List.all_eq_true] at hok
    have := (hok.1.1.1.2 f hf).1
    simp only [plainField, Bool.and_eq_true, Bool.not_eq_true'] at this
    exact this.1.1.1⟩

end

/-! ### the theorem -/

/-- **C02, round trip**: in a program of the fragment, for every type expression over its
declarations and every Go value of that type (with exact structs), `json.Unmarshal` of the document
`json.Marshal` writes — both with the generated wrappers — gives the value back: no error, no
"exhaustive switch" panic, the same dynamic type behind every interface. -/
theorem C02_round_trip (F : FragmentRT env w ds) : ∀ n, RT env w ds n := by
  intro n t v hin hnu hs ht
  obtain ⟨v', h, -, hx⟩ := round_trip env w ds F.fragmentN n false t v hin hnu
    (shapeRT_of_shapeOk hs) ht
  rw [h, hx F.exact]

/-- **C02, round trip, as evaluated per program**: when the decidable fragment check holds, every
strictly typed value of every non-union source type is read back from its own document -/
theorem C02_round_trip_checked (h : fragmentRTB env w ds = true) (n : Nat) (q : String) (v : GoVal)
    (hq : ∃ d ∈ ds, d.q = q) (hnu : isUnionTy env (.ref q) = false) (ht : wt env n (.ref q) v = true) :
    decode env w n false (.ref q) (encode env w n false (.ref q) v) = some v :=
  C02_round_trip env w ds (fragmentRT_of_check env w ds h) n (.ref q) v (tyIn_ref.mpr hq) (by simp [noUnion, hnu])
    (by simp [shapeOk]) ht

/-- a union value in a wrapped position (a field of a struct with a generated shadow struct) is read
back with the member the Kind names -/
theorem C02_round_trip_wrapped (F : FragmentRT env w ds) (n : Nat)
    (uq : String) (ud : Decl) (ms : List Ty) (v : GoVal) (hud : ud ∈ ds) (hq : ud.q = uq) (hb : ud.body = .union ms)
    (ht : wt env n (.ref uq) v = true) :
    decode env w n true (.ref uq) (encode env w n true (.ref uq) v) = some v := by
  subst hq
  obtain ⟨v', h, -, hx⟩ := round_trip env w ds F.fragmentN n true (.ref ud.q) v (tyIn_ref.mpr ⟨ud, hud, rfl⟩)
    (by simp [pos, isUnionTy, F.found ud hud, hb]) (by simp [shapeRT]) ht
  rw [h, hx F.exact]

end Gomacro.RoundTrip
