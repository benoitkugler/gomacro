import Gomacro.Outcome
/-! Lemmas on how an `Outcome` ends: `isCrash`, and the crashes of `bind` and `mapM'`. -/
namespace Gomacro.Outcome

theorem isCrash_eq_false {α} {o : Outcome α} : o.isCrash = false ↔ ∀ s, o ≠ crash s := by
  cases o <;> simp [isCrash]

theorem bind_no_crash {α β} {x : Outcome α} {f : α → Outcome β} (hx : x.isCrash = false)
    (hf : ∀ a, x = ok a → (f a).isCrash = false) : (x.bind f).isCrash = false := by
  cases x with
  | ok a => exact hf a rfl
  | diag m => rfl
  | crash s => exact hx

theorem mapM'_eq_crash {α β} {f : α → Outcome β} {s : String} :
    ∀ {l : List α}, mapM' f l = crash s → ∃ a ∈ l, f a = crash s
  | a :: as, h => by
    simp only [mapM'] at h
    split at h
    · split at h <;> simp at h
      subst h
      obtain ⟨b, hb, hs⟩ := mapM'_eq_crash ‹mapM' f as = crash _›
      exact ⟨b, List.mem_cons_of_mem _ hb, hs⟩
    · simp at h
    · simp at h; subst h
      exact ⟨a, List.mem_cons_self, ‹_›⟩

theorem mapM'_no_crash {α β} (f : α → Outcome β) (l : List α)
    (h : ∀ a ∈ l, (f a).isCrash = false) : (mapM' f l).isCrash = false :=
  isCrash_eq_false.mpr fun s hs => by
    obtain ⟨a, ha, hs⟩ := mapM'_eq_crash hs
    exact isCrash_eq_false.mp (h a ha) s hs

end Gomacro.Outcome
