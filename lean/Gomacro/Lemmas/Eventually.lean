/-!
"For every sufficiently large fuel": the end-to-end statements relate the encoder to a consumer
with a fuel of its own (`TsGen.inhabits`, `PgGen.call`), which only has to be large enough.
-/
namespace Gomacro.E2E

def Eventually (P : Nat → Prop) : Prop := ∃ N, ∀ m, N ≤ m → P m

theorem ev_of_all {P : Nat → Prop} (h : ∀ m, P m) : Eventually P := ⟨0, fun m _ => h m⟩

theorem ev_succ {P : Nat → Prop} (h : ∀ m, P (m + 1)) : Eventually P :=
  ⟨1, fun m hm => by cases m with | zero => omega | succ k => exact h k⟩

theorem ev_mono {P Q : Nat → Prop} (h : Eventually P) (hpq : ∀ m, P m → Q m) : Eventually Q := by
  obtain ⟨N, hN⟩ := h
  exact ⟨N, fun m hm => hpq m (hN m hm)⟩

theorem ev_and {P Q : Nat → Prop} (hp : Eventually P) (hq : Eventually Q) : Eventually (fun m => P m ∧ Q m) := by
  obtain ⟨N, hN⟩ := hp
  obtain ⟨M, hM⟩ := hq
  exact ⟨max N M, fun m hm => ⟨hN m (by omega), hM m (by omega)⟩⟩

theorem ev_shift {P : Nat → Prop} (h : Eventually (fun m => P (m + 1))) : Eventually P := by
  obtain ⟨N, hN⟩ := h
  exact ⟨N + 1, fun m hm => by cases m with | zero => omega | succ k => exact hN k (by omega)⟩

theorem ev_forall_mem {α} (l : List α) (P : α → Nat → Prop) (h : ∀ x ∈ l, Eventually (P x)) :
    Eventually (fun m => ∀ x ∈ l, P x m) := by
  induction l with
  | nil => exact ev_of_all (by simp)
  | cons a as ih =>
    refine ev_mono (ev_and (h a (by simp)) (ih fun x hx => h x (by simp [hx]))) fun m ⟨h1, h2⟩ x hx => ?_
    rcases List.mem_cons.mp hx with rfl | hx
    · exact h1
    · exact h2 x hx

end Gomacro.E2E
