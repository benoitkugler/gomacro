import Gomacro.Decls
import Gomacro.Lemmas.Dedup
/-! `sortedIds` lists its members in strictly increasing order; `dedupFirst` is `dedupKey` at
`Decl.id` (core only). -/
namespace Gomacro.Decls
open List

theorem mem_insertId {x a : String} {l : List String} :
    a ∈ insertId x l ↔ a = x ∨ a ∈ l := by
  induction l with
  | nil => simp [insertId]
  | cons y ys ih =>
    unfold insertId
    split
    · exact mem_cons
    · split
      · rename_i h; simp [h]
      · simp only [mem_cons, ih, or_left_comm]

theorem pairwise_insertId {x : String} {l : List String} (h : l.Pairwise (· < ·)) :
    (insertId x l).Pairwise (· < ·) := by
  induction l with
  | nil => simp [insertId]
  | cons y ys ih =>
    have ⟨hy, hys⟩ := pairwise_cons.mp h
    unfold insertId
    split
    next hxy =>
      exact pairwise_cons.mpr ⟨forall_mem_cons.mpr ⟨hxy, fun a ha => String.lt_trans hxy (hy a ha)⟩, h⟩
    · split
      · exact h
      next h1 h2 =>
        refine pairwise_cons.mpr ⟨fun a ha => ?_, ih hys⟩
        rcases mem_insertId.mp ha with rfl | ha
        · exact Std.lt_of_le_of_ne (String.not_lt.mp h1) (Ne.symm h2)
        · exact hy a ha

theorem mem_sortedIds {a : String} {l : List String} : a ∈ sortedIds l ↔ a ∈ l := by
  induction l with
  | nil => simp [sortedIds]
  | cons y ys ih => exact mem_insertId.trans ((or_congr_right ih).trans mem_cons.symm)

theorem pairwise_sortedIds (l : List String) : (sortedIds l).Pairwise (· < ·) := by
  induction l with
  | nil => simp [sortedIds]
  | cons y ys ih => exact pairwise_insertId ih

theorem dedupFirst_eq (seen : List String) (l : List Decl) :
    dedupFirst seen l = dedupKey (·.id) seen l := by
  induction l generalizing seen with
  | nil => rfl
  | cons d ds ih => simp only [dedupFirst, dedupKey, ih]

theorem dedupFirst_sublist (seen : List String) (l : List Decl) :
    (dedupFirst seen l).Sublist l := dedupFirst_eq .. ▸ dedupKey_sublist ..

theorem mem_dedupFirst_ids {seen : List String} {l : List Decl} {i : String} :
    i ∈ (dedupFirst seen l).map (·.id) ↔ i ∈ l.map (·.id) ∧ i ∉ seen :=
  dedupFirst_eq .. ▸ mem_dedupKey_keys

theorem nodup_dedupFirst_ids (seen : List String) (l : List Decl) :
    ((dedupFirst seen l).map (·.id)).Nodup := dedupFirst_eq .. ▸ nodup_dedupKey_keys ..

theorem dedupFirst_append (seen : List String) (a b : List Decl) :
    dedupFirst seen (a ++ b) =
      dedupFirst seen a ++ dedupFirst (((dedupFirst seen a).map (·.id)).reverse ++ seen) b := by
  simp only [dedupFirst_eq, dedupKey_append]

/-- on a list sorted by id, the deduped ids are strictly increasing -/
theorem strict_dedupFirst_ids {seen : List String} {l : List Decl} (h : SortedById l) :
    ((dedupFirst seen l).map (·.id)).Pairwise (· < ·) :=
  ((pairwise_map.mpr (h.sublist (dedupFirst_sublist seen l))).and
    (nodup_dedupFirst_ids seen l)).imp fun ⟨h1, h2⟩ => Std.lt_of_le_of_ne h1 h2

end Gomacro.Decls
