import Gomacro.EndToEnd
/-!
The encoder `GoJson.encode` and the typing `E2E.hasType` through equations: the hand-rolled list
recursions are `List.map` / `List.all`, and `encode` / `hasType` at a reference unfold by the body of
the declaration found. The end-to-end proofs use these and never unfold the definitions themselves
(the compiled `match` of `encode` is large, and every `simp [encode]` pays for it again).
-/
namespace Gomacro.GoJson
open Gomacro.IR

variable {env : Env} {w : Wrappers} {n : Nat}

theorem encodeList_eq (e : Ty) : ∀ es, encodeList env w n e es = es.map (encode env w n false e)
  | [] => by rw [encodeList, List.map_nil]
  | v :: vs => by rw [encodeList, encodeList_eq e vs, List.map_cons]

theorem encodeListW_eq (e : Ty) : ∀ es, encodeListW env w n e es = es.map (encode env w n true e)
  | [] => by rw [encodeListW, List.map_nil]
  | v :: vs => by rw [encodeListW, encodeListW_eq e vs, List.map_cons]

theorem encodeEntries_eq (wr : Bool) (e : Ty) : ∀ kvs,
    encodeEntries env w n wr e kvs = kvs.map fun kv => (keyString kv.1, encode env w n wr e kv.2)
  | [] => by rw [encodeEntries, List.map_nil]
  | (k, v) :: kvs => by rw [encodeEntries, encodeEntries_eq wr e kvs, List.map_cons]

/-- what `encoding/json` writes for a value of basic kind, whatever its (basic or enum) type -/
def scalarDoc : GoVal → JVal
  | .bool b => .bool b
  | .int r => .num r
  | .float r => .num r
  | .str s => .str s
  | _ => .null

theorem encode_basic (wr : Bool) (g : String) (bk : BKind) (v : GoVal) :
    encode env w (n + 1) wr (.basic g bk) v = scalarDoc v := by
  cases v <;> simp [encode, scalarDoc]

theorem encode_time (wr d : Bool) (s : String) : encode env w (n + 1) wr (.time d) (.time s) = .str s := by
  simp [encode]

theorem encode_arr (wr : Bool) (k : Int) (e : Ty) (s nl : Bool) (es : List GoVal) :
    encode env w (n + 1) wr (.arr k e) (.list s nl es) =
      if s && nl then .null else .arr (es.map (encode env w n false e)) := by
  simp [encode, encodeList_eq]

theorem encode_bytes (wr : Bool) (k : Int) (e : Ty) (nl : Bool) (b : String) :
    encode env w (n + 1) wr (.arr k e) (.bytes nl b) = if nl then .null else .str b := by
  simp [encode]

theorem encode_map (wr : Bool) (k e : Ty) (nl : Bool) (kvs : List (GoVal × GoVal)) :
    encode env w (n + 1) wr (.map k e) (.map nl kvs) =
      if nl then .null else .obj (kvs.map fun kv => (keyString kv.1, encode env w n false e kv.2)) := by
  simp [encode, encodeEntries_eq]

section ref
variable {q : String} {d : Decl} (hf : env.find? q = some d)
include hf

theorem encode_named {u : Ty} (hb : d.body = .named u) (hw : w.nameds.contains q = false) (wr : Bool) (v : GoVal) :
    encode env w (n + 1) wr (.ref q) v = encode env w n false u v := by
  have hw : q ∉ w.nameds := by simpa using hw
  simp [encode, hf, hb, hw]

/-- the generated `MarshalJSON` of a named slice of unions: element-wise through the wrapper,
`make([]W, 0)` for nil -/
theorem encode_namedSlice {k : Int} {e : Ty} (hb : d.body = .named (.arr k e)) (hw : w.nameds.contains q = true)
    (wr s nl : Bool) (es : List GoVal) :
    encode env w (n + 1) wr (.ref q) (.list s nl es) =
      .arr (if s && nl then [] else es.map (encode env w n true e)) := by
  simp only [encode, hf, hb, hw, if_true, encodeListW_eq]
  split <;> rfl

theorem encode_namedMap {k e : Ty} (hb : d.body = .named (.map k e)) (hw : w.nameds.contains q = true)
    (wr nl : Bool) (kvs : List (GoVal × GoVal)) :
    encode env w (n + 1) wr (.ref q) (.map nl kvs) =
      .obj (kvs.map fun kv => (keyString kv.1, encode env w n true e kv.2)) := by
  simp only [encode, hf, hb, hw, if_true, encodeEntries_eq]

theorem encode_enum {un : String} {bk : BKind} {ms : List Member} {io : Bool} (hb : d.body = .enum un bk ms io)
    (wr : Bool) (v : GoVal) : encode env w (n + 1) wr (.ref q) v = scalarDoc v := by
  cases v <;> simp [encode, hf, hb, scalarDoc]

theorem encode_struct {fs : List Field} {cs : List Comment} {im : List String} (hb : d.body = .struct fs cs im)
    (wr : Bool) (vals : List (String × GoVal)) :
    encode env w (n + 1) wr (.ref q) (.struct vals) = .obj (encodeFields env w n (w.structs.contains q) fs vals) := by
  simp [encode, hf, hb]

theorem encode_union {ms : List Ty} (hb : d.body = .union ms) (wr : Bool) (name : String) (mv : GoVal) :
    encode env w (n + 1) wr (.ref q) (.iface (some (name, mv))) =
      if wr then .obj [("Data", encode env w n false (memberTy env d name) mv), ("Kind", .str name)]
      else encode env w n false (memberTy env d name) mv := by
  simp [encode, hf, hb]

end ref
end Gomacro.GoJson

/-! ### typing -/

namespace Gomacro.E2E
open Gomacro.IR Gomacro.GoJson

variable {env : Env} {n : Nat}

theorem hasTypeAll_eq (e : Ty) : ∀ es, hasTypeAll env n e es = es.all (hasType env n e)
  | [] => by rw [hasTypeAll, List.all_nil]
  | v :: vs => by rw [hasTypeAll, hasTypeAll_eq e vs, List.all_cons]

theorem hasTypeEntries_eq (k e : Ty) : ∀ kvs,
    hasTypeEntries env n k e kvs = kvs.all fun kv => keyOk k kv.1 && hasType env n e kv.2
  | [] => by rw [hasTypeEntries, List.all_nil]
  | (key, v) :: kvs => by rw [hasTypeEntries, hasTypeEntries_eq k e kvs, List.all_cons]

theorem hasTypeFields_eq (vals : List (String × GoVal)) : ∀ fs,
    hasTypeFields env n fs vals = (serialised fs).all fun f =>
      (vals.lookup f.name).any fun v => Tags.opaqueFor f.tag "typescript" || hasType env n f.ty v
  | [] => by rw [hasTypeFields]; rfl
  | f :: fs => by
    rw [hasTypeFields, hasTypeFields_eq vals fs]
    simp only [serialised, List.filter_cons]
    cases hk : Tags.goJsonKey f.tag f.name f.goExported <;> cases hv : vals.lookup f.name <;> simp [hv]

theorem hasType_basic {g : String} {bk : BKind} {v : GoVal} (h : hasType env (n + 1) (.basic g bk) v = true) :
    (bk = .bool ∧ ∃ b, v = .bool b) ∨ (bk = .int ∧ ∃ r, v = .int r) ∨ (bk = .float ∧ ∃ r, v = .float r) ∨
      (bk = .str ∧ ∃ s, v = .str s) := by
  rw [hasType.eq_def] at h
  cases bk <;> cases v <;> simp at h <;> simp

theorem hasType_time {d : Bool} {v : GoVal} (h : hasType env (n + 1) (.time d) v = true) : ∃ s, v = .time s := by
  cases v <;> simp_all [hasType]

theorem hasType_arr {k : Int} {e : Ty} {v : GoVal} : hasType env (n + 1) (.arr k e) v = true ↔
    ∃ nl es, v = .list (decide (k < 0)) nl es ∧ (k < 0 ∨ es.length = k.toNat) ∧ ∀ x ∈ es, hasType env n e x = true := by
  constructor
  · intro h
    cases v <;> simp [hasType, hasTypeAll_eq] at h
    obtain ⟨⟨rfl, hl⟩, ha⟩ := h
    exact ⟨_, _, rfl, hl, ha⟩
  · rintro ⟨nl, es, rfl, hl, ha⟩
    simpa [hasType, hasTypeAll_eq] using ⟨hl, ha⟩

theorem hasType_map {k e : Ty} {v : GoVal} : hasType env (n + 1) (.map k e) v = true ↔
    ∃ nl kvs, v = .map nl kvs ∧ ∀ kv ∈ kvs, keyOk k kv.1 = true ∧ hasType env n e kv.2 = true := by
  constructor
  · intro h
    cases v <;> simp [hasType, hasTypeEntries_eq] at h
    exact ⟨_, _, rfl, fun kv hkv => h kv.1 kv.2 hkv⟩
  · rintro ⟨nl, kvs, rfl, h⟩
    simpa [hasType, hasTypeEntries_eq] using fun a b hab => h (a, b) hab

section ref
variable {q : String} {d : Decl} (hf : env.find? q = some d)
include hf

theorem hasType_named {u : Ty} (hb : d.body = .named u) (v : GoVal) :
    hasType env (n + 1) (.ref q) v = hasType env n u v := by
  simp [hasType, hf, hb]

theorem hasType_enum {un : String} {bk : BKind} {ms : List Member} {io : Bool} (hb : d.body = .enum un bk ms io)
    (v : GoVal) : hasType env (n + 1) (.ref q) v = ms.any fun m => litOk m v := by
  simp [hasType, hf, hb]

theorem hasType_struct {fs : List Field} {cs : List Comment} {im : List String} (hb : d.body = .struct fs cs im)
    {v : GoVal} : hasType env (n + 1) (.ref q) v = true ↔ ∃ vals, v = .struct vals ∧ hasTypeFields env n fs vals = true := by
  constructor
  · intro h
    cases v <;> simp [hasType, hf, hb] at h
    exact ⟨_, rfl, h⟩
  · rintro ⟨vals, rfl, h⟩
    simpa [hasType, hf, hb] using h

theorem hasType_union {ms : List Ty} (hb : d.body = .union ms) {v : GoVal} :
    hasType env (n + 1) (.ref q) v = true ↔ ∃ name mv, v = .iface (some (name, mv)) ∧
      ms.any (fun m => localNameOf env m == name) = true ∧ hasType env n (memberTy env d name) mv = true := by
  constructor
  · intro h
    rcases v with _ | _ | _ | _ | _ | _ | _ | _ | _ | _ | ⟨name, mv⟩ <;>
      simp only [hasType, hf, hb, Bool.and_eq_true, Bool.false_eq_true] at h
    exact ⟨_, _, rfl, h⟩
  · rintro ⟨name, mv, rfl, h⟩
    simpa only [hasType, hf, hb, Bool.and_eq_true] using h

end ref

variable (env) in
/-- typing is monotone in the fuel (the generated methods of a named container encode the elements
one level of fuel higher than the typing looks at them) -/
theorem hasType_mono : ∀ (n : Nat) (t : Ty) (v : GoVal), hasType env n t v = true → hasType env (n + 1) t v = true
  | 0, _, _, h => by simp [hasType] at h
  | n + 1, t, v, h => by
    have ih := hasType_mono n
    cases t with
    | basic g bk =>
      rcases hasType_basic h with ⟨rfl, _, rfl⟩ | ⟨rfl, _, rfl⟩ | ⟨rfl, _, rfl⟩ | ⟨rfl, _, rfl⟩ <;> rw [hasType.eq_def]
    | time d => obtain ⟨s, rfl⟩ := hasType_time h; rw [hasType.eq_def]
    | arr k e =>
      obtain ⟨nl, es, rfl, hl, ha⟩ := hasType_arr.mp h
      exact hasType_arr.mpr ⟨nl, es, rfl, hl, fun x hx => ih e x (ha x hx)⟩
    | map k e =>
      obtain ⟨nl, kvs, rfl, ha⟩ := hasType_map.mp h
      exact hasType_map.mpr ⟨nl, kvs, rfl, fun kv hkv => ⟨(ha kv hkv).1, ih e _ (ha kv hkv).2⟩⟩
    | ptr e => simp [hasType] at h
    | ref q =>
      cases hf : env.find? q with
      | none => simp [hasType, hf] at h
      | some d =>
        cases hb : d.body with
        | named u => rw [hasType_named hf hb] at h ⊢; exact ih u v h
        | enum un bk ms io => rw [hasType_enum hf hb] at h ⊢; exact h
        | struct fs cs im =>
          obtain ⟨vals, rfl, hv⟩ := (hasType_struct hf hb).mp h
          refine (hasType_struct hf hb).mpr ⟨vals, rfl, ?_⟩
          simp only [hasTypeFields_eq, List.all_eq_true, Option.any_eq_true, Bool.or_eq_true] at hv ⊢
          exact fun f hfs => let ⟨x, hx, hh⟩ := hv f hfs; ⟨x, hx, hh.imp id (ih f.ty x)⟩
        | union ms =>
          obtain ⟨name, mv, rfl, hany, hmv⟩ := (hasType_union hf hb).mp h
          exact (hasType_union hf hb).mpr ⟨name, mv, rfl, hany, ih _ mv hmv⟩

end Gomacro.E2E

/-! ### the fields of a struct -/

namespace Gomacro.E2E
open Gomacro.IR Gomacro.GoJson

def fkey (f : Field) : String := Tags.jsonName f.tag f.name

/- `Tags.jsonName` unfolds to the tag scanner run on a symbolic string. Left reducible, `whnf` runs it
whenever a key is compared or substituted (`subst`, `cases` on `k = fkey f`, the unifier at
`(fkey f, x).1 =?= fkey f`): tens of millions of heartbeats each time. Every file that handles keys
of fields repeats this line. -/
attribute [local irreducible] Tags.jsonName

def isSer (f : Field) : Bool := (Tags.goJsonKey f.tag f.name f.goExported).isSome

theorem mem_serialised {f : Field} {fs : List Field} : f ∈ serialised fs ↔ f ∈ fs ∧ isSer f = true := List.mem_filter

theorem serialised_cons (f : Field) (fs : List Field) :
    serialised (f :: fs) = if isSer f = true then f :: serialised fs else serialised fs := List.filter_cons

/-- In a list built from the elements that have an entry, each under its own key, looking up the
key of an element finds its entry (keys distinct). -/
theorem lookup_filterMap_key {α β} (key : α → String) (g : α → Option β) : ∀ (l : List α), (l.map key).Nodup →
    ∀ a ∈ l, (l.filterMap fun a => (g a).map (key a, ·)).lookup (key a) = g a
  | [], _, _, h => nomatch h
  | b :: l, hnd, a, ha => by
    rw [List.map_cons, List.nodup_cons] at hnd
    rw [List.filterMap_cons]
    rcases List.mem_cons.mp ha with rfl | ha
    · cases hg : g a with
      | some x => simp
      | none =>
        refine List.lookup_eq_none_iff.mpr fun p hp => ?_
        obtain ⟨c, hc, he⟩ := List.mem_filterMap.mp hp
        cases hgc : g c <;> simp [hgc] at he
        subst he
        simpa using fun e : key a = key c => hnd.1 (e ▸ List.mem_map.mpr ⟨c, hc, rfl⟩)
    · have hne : (key a == key b) = false := by
        simpa using fun e : key a = key b => hnd.1 (e ▸ List.mem_map.mpr ⟨a, ha, rfl⟩)
      cases g b <;> simp [List.lookup, hne, lookup_filterMap_key key g l hnd.2 a ha]

variable {env : Env} {w : Wrappers} {n : Nat} {sh : Bool} {vals : List (String × GoVal)} {fs : List Field}

/-- what the document of a struct holds for a serialised field: nothing when the field has no value
or is `omitempty` and empty -/
def fieldEntry (env : Env) (w : Wrappers) (n : Nat) (sh : Bool) (vals : List (String × GoVal)) (f : Field) : Option JVal :=
  (vals.lookup f.name).bind fun v =>
    if (tagOptions f.tag).contains "omitempty" && isEmptyVal v then none
    else some (quoteIf (tagOptions f.tag) v (encode env w n (sh && isUnionTy env f.ty) f.ty v))

theorem quoteIf_noString {opts : List String} (h : opts.contains "string" = false) (v : GoVal) (j : JVal) :
    quoteIf opts v j = j := by
  simp only [quoteIf, h, Bool.false_eq_true, if_false]

/-- `hkey`: every field is written under the key `fkey` (`Tags.C09_key_eq` gives it for valid tags) -/
theorem encodeFields_eq : ∀ (fs : List Field),
    (∀ f ∈ serialised fs, ∀ k, Tags.goJsonKey f.tag f.name f.goExported = some k → k = fkey f) →
    encodeFields env w n sh fs vals = (serialised fs).filterMap fun f => (fieldEntry env w n sh vals f).map (fkey f, ·)
  | [], _ => by rw [encodeFields]; rfl
  | f :: fs, hkey => by
    rw [serialised_cons] at hkey ⊢
    rw [encodeFields]
    cases hk : Tags.goJsonKey f.tag f.name f.goExported with
    | none =>
      have hs : ¬ isSer f = true := by simp [isSer, hk]
      rw [if_neg hs] at hkey ⊢
      exact encodeFields_eq fs hkey
    | some k =>
      have hs : isSer f = true := by simp [isSer, hk]
      rw [if_pos hs] at hkey ⊢
      cases hkey f List.mem_cons_self k hk
      rw [encodeFields_eq fs fun g hg => hkey g (List.mem_cons_of_mem _ hg)]
      simp only [List.filterMap_cons, fieldEntry]
      cases vals.lookup f.name with
      | none => rfl
      | some v => simp only [Option.bind_some]; split <;> rfl

variable (hkey : ∀ f ∈ serialised fs, ∀ k, Tags.goJsonKey f.tag f.name f.goExported = some k → k = fkey f)
include hkey

/-- what the document of a struct holds under the key of a serialised field: nothing when the field
is `omitempty` and empty -/
theorem encodeFields_lookup (hnd : ((serialised fs).map fkey).Nodup) {f : Field} (hf : f ∈ serialised fs) {v : GoVal}
    (hv : vals.lookup f.name = some v) :
    (encodeFields env w n sh fs vals).lookup (fkey f) =
      if (tagOptions f.tag).contains "omitempty" && isEmptyVal v then none
      else some (quoteIf (tagOptions f.tag) v (encode env w n (sh && isUnionTy env f.ty) f.ty v)) := by
  rw [encodeFields_eq fs hkey, lookup_filterMap_key fkey _ _ hnd f hf, fieldEntry, hv, Option.bind_some]

theorem encodeFields_keys {p : String × JVal} (hp : p ∈ encodeFields env w n sh fs vals) :
    ∃ f ∈ serialised fs, p.1 = fkey f := by
  rw [encodeFields_eq fs hkey] at hp
  obtain ⟨f, hf, he⟩ := List.mem_filterMap.mp hp
  cases hg : fieldEntry env w n sh vals f <;> simp [hg] at he
  exact ⟨f, hf, by rw [← he]⟩

end Gomacro.E2E
