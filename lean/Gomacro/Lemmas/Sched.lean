import Gomacro.Sched
/-! Invariant of the formatter-cache protocol and its preservation (core only). The invariant has
two views, one per thread (`Thread`) and one per cache entry (`Entry`); a step is followed through
frame lemmas (`step_other`, `step_frame`, `step_lock_ne`) and mutual exclusion (`Inv.only`). -/
namespace Gomacro.Sched

@[simp] theorem setPc_pc (s : St) (i j : Nat) (p : Pc) :
    (setPc s i p).pc j = if j = i then p else s.pc j := rfl
@[simp] theorem setPc_cell (s : St) (i : Nat) (p : Pc) : (setPc s i p).cell = s.cell := rfl
@[simp] theorem setPc_probes (s : St) (i : Nat) (p : Pc) : (setPc s i p).probes = s.probes := rfl
@[simp] theorem setPc_runs (s : St) (i : Nat) (p : Pc) : (setPc s i p).runs = s.runs := rfl

/-- in the critical section: between `Lock()` and the deferred `Unlock()` -/
@[simp] def inside : Pc → Bool
  | .locked | .probing | .writing _ | .unlocking _ => true
  | _ => false

theorem step_other (c : Cfg) (s : St) {i j : Nat} (e : j ≠ i) :
    (step c s i).pc j = s.pc j ∧ (step c s i).runs j = s.runs j := by
  unfold step; split <;> (try split) <;> simp [e]

/-- the cache entry of `t` changes only in a step from `probing` or `writing` of a request for `t` -/
theorem step_frame (c : Cfg) (s : St) {i : Nat} {t : Tool}
    (h : ¬(t = c.req i ∧ (s.pc i = .probing ∨ ∃ r, s.pc i = .writing r))) :
    (step c s i).cell t = s.cell t ∧ (step c s i).probes t = s.probes t := by
  cases hp : s.pc i <;> simp only [step, hp]
  case probing => exact ⟨rfl, if_neg fun e => h ⟨e, .inl hp⟩⟩
  case writing r => exact ⟨if_neg fun e => h ⟨e, .inr ⟨r, hp⟩⟩, rfl⟩
  all_goals (try split) <;> simp

theorem step_outside (c : Cfg) (s : St) {i : Nat} (o : inside (s.pc i) = false) (t : Tool) :
    (step c s i).cell t = s.cell t ∧ (step c s i).probes t = s.probes t :=
  step_frame c s fun ⟨_, hp⟩ => by rcases hp with hp | ⟨r, hp⟩ <;> rw [hp] at o <;> cases o

/-- the mutex changes hands only at `idle` (taken by `i`) and at `unlocking` (released by `i`) -/
theorem step_lock_ne (c : Cfg) (s : St) {i j : Nat} (hi : inside (s.pc i) = true → s.lock = some i)
    (e : j ≠ i) : (step c s i).lock = some j ↔ s.lock = some j := by
  have ne : some i ≠ some j := fun h => e (Option.some.inj h).symm
  cases hp : s.pc i <;> simp only [step, hp]
  case idle =>
    split
    · rename_i hl; rw [hl]; exact ⟨fun h => absurd h ne, nofun⟩
    · exact Iff.rfl
  case unlocking => rw [hi (by rw [hp]; rfl)]; exact ⟨nofun, fun h => absurd h ne⟩
  all_goals (try split) <;> exact Iff.rfl

/-- what a request for tool `t` knows privately: its program counter and its number of runs -/
def Loc (c : Cfg) (t : Tool) (n : Nat) : Pc → Prop
  | .writing b | .unlocking b | .deciding b => b = c.installed t ∧ n = 0
  | .done e => n = (if c.installed t then 1 else 0) ∧ e = (c.installed t && !c.runOk t)
  | _ => n = 0

/-- what a request sees of the cache entry (cell, number of probes) of its tool -/
def View (cell : Option Bool) (probes : Nat) : Pc → Prop
  | .probing => cell = none ∧ probes = 0
  | .writing _ => cell = none ∧ probes = 1
  | _ => True

/-- the invariant as seen by thread `j` -/
structure Thread (c : Cfg) (s : St) (j : Nat) : Prop where
  mutex : inside (s.pc j) = true ↔ s.lock = some j
  loc : Loc c (c.req j) (s.runs j) (s.pc j)
  view : View (s.cell (c.req j)) (s.probes (c.req j)) (s.pc j)

/-- the invariant as seen by the cache entry of tool `t` -/
structure Entry (c : Cfg) (s : St) (t : Tool) : Prop where
  some : ∀ b, s.cell t = some b → s.probes t = 1 ∧ b = c.installed t
  none : s.cell t = none → s.probes t = 0 ∨ ∃ j r, s.pc j = .writing r ∧ c.req j = t

structure Inv (c : Cfg) (s : St) : Prop where
  thread : ∀ j, Thread c s j
  entry : ∀ t, Entry c s t

theorem inv_init (c : Cfg) : Inv c init :=
  ⟨fun _ => ⟨⟨nofun, nofun⟩, rfl, trivial⟩, fun _ => ⟨nofun, fun _ => .inl rfl⟩⟩

/-- **mutual exclusion**: while `i` is inside, nobody else is -/
theorem Inv.only {c s} (h : Inv c s) {i k : Nat} (hi : inside (s.pc i) = true)
    (hk : inside (s.pc k) = true) : k = i :=
  Option.some.inj (((h.thread k).mutex.1 hk).symm.trans ((h.thread i).mutex.1 hi))

theorem step_thread_ne (c : Cfg) (s : St) {i j : Nat} (h : Inv c s) (e : j ≠ i) :
    Thread c (step c s i) j := by
  have ⟨hm, hl, hv⟩ := h.thread j
  refine ⟨?_, ?_, ?_⟩ <;> rw [(step_other c s e).1]
  · rw [step_lock_ne c s (h.thread i).mutex.1 e]; exact hm
  · rw [(step_other c s e).2]; exact hl
  · cases hp : s.pc j with
    | probing | writing _ =>
      -- `j` is inside, so `i` is not, and leaves every entry alone
      have o := Bool.eq_false_iff.2 fun hi => e (h.only hi (by rw [hp]; rfl))
      rw [(step_outside c s o _).1, (step_outside c s o _).2]; exact hp ▸ hv
    | _ => trivial

theorem Thread.set {c : Cfg} {s : St} {i : Nat} {p : Pc} (hm : inside p = true ↔ s.lock = some i)
    (hl : Loc c (c.req i) (s.runs i) p) (hv : View (s.cell (c.req i)) (s.probes (c.req i)) p) :
    Thread c (setPc s i p) i := by
  refine ⟨?_, ?_, ?_⟩ <;> rw [setPc_pc, if_pos rfl] <;> assumption

theorem step_thread_self (c : Cfg) (s : St) (i : Nat) (h : Inv c s) : Thread c (step c s i) i := by
  have ⟨hm, hl, hv⟩ := h.thread i
  cases hp : s.pc i <;> rw [hp] at hm hl hv <;> simp only [step, hp]
  case idle =>
    split
    · exact .set ⟨fun _ => rfl, fun _ => rfl⟩ hl trivial
    · exact h.thread i
  case locked =>
    -- by mutual exclusion nobody is at `writing`, so an empty entry has not been probed for
    have nw : ¬∃ j r, s.pc j = .writing r ∧ c.req j = c.req i := fun ⟨j, r, hj, _⟩ => by
      have e : j = i := h.only (by rw [hp]; rfl) (by rw [hj]; rfl)
      rw [e, hp] at hj; cases hj
    split <;> rename_i hc
    · exact .set hm hl ⟨hc, ((h.entry _).none hc).resolve_right nw⟩
    · exact .set hm ⟨((h.entry _).some _ hc).2, hl⟩ trivial
  case probing => exact .set hm ⟨rfl, hl⟩ ⟨hv.1, (if_pos rfl).trans (by rw [hv.2])⟩
  case writing => exact .set hm hl trivial
  case unlocking => exact .set ⟨nofun, nofun⟩ hl trivial
  case deciding b => cases b <;> exact .set hm (by simp [Loc, hl.2, ← hl.1]) trivial
  case done => exact h.thread i

theorem step_entry (c : Cfg) (s : St) (i : Nat) (h : Inv c s) (t : Tool) :
    Entry c (step c s i) t := by
  have ⟨hs, hn⟩ := h.entry t
  by_cases q : t = c.req i ∧ (s.pc i = .probing ∨ ∃ r, s.pc i = .writing r)
  · have ⟨_, hl, hv⟩ := h.thread i
    obtain ⟨rfl, hp | ⟨r, hp⟩⟩ := q <;> rw [hp] at hl hv <;>
      refine ⟨fun b ht => ?_, fun ht => ?_⟩ <;>
      simp only [step, hp, setPc_cell, setPc_probes, setPc_pc, if_pos] at ht ⊢
    -- after the probe the entry is still empty and `i` is its writer
    · rw [hv.1] at ht; cases ht
    · exact .inr ⟨i, _, if_pos rfl, rfl⟩
    -- the write fills it with the result of the one probe
    · cases ht; exact ⟨hv.2, hl.1⟩
    · cases ht
  · -- neither the entry nor who is about to write it changes
    have ⟨ec, ep⟩ := step_frame c s q
    refine ⟨?_, ?_⟩ <;> rw [ec, ep]
    · exact hs
    · refine fun ht => (hn ht).imp_right fun ⟨j, r, hj, e⟩ => ⟨j, r, ?_, e⟩
      rw [(step_other c s _).1, hj]
      rintro rfl; exact q ⟨e.symm, .inr ⟨r, hj⟩⟩

theorem inv_step (c : Cfg) (s : St) (i : Nat) (h : Inv c s) : Inv c (step c s i) :=
  ⟨fun j => if e : j = i then e ▸ step_thread_self c s i h else step_thread_ne c s h e,
   step_entry c s i h⟩

theorem inv_run (c : Cfg) (s : St) (sched : List Nat) (h : Inv c s) : Inv c (run c s sched) := by
  induction sched generalizing s with
  | nil => exact h
  | cons i is ih => exact ih _ (inv_step c s i h)

theorem inv_reachable {c : Cfg} {s : St} (h : Reachable c s) : Inv c s := by
  obtain ⟨sched, rfl⟩ := h
  exact inv_run c init sched (inv_init c)

theorem Inv.done {c s} (h : Inv c s) {i : Nat} {e : Bool} (hd : s.pc i = .done e) :
    s.runs i = (if c.installed (c.req i) then 1 else 0) ∧
      e = (c.installed (c.req i) && !c.runOk (c.req i)) := by
  have := (h.thread i).loc; rwa [hd] at this

theorem Loc.runs_zero {c : Cfg} {t n p} (h : Loc c t n p) (hd : ∀ e, p ≠ .done e) : n = 0 := by
  cases p with
  | idle | locked | probing => exact h
  | writing _ | unlocking _ | deciding _ => exact h.2
  | done e => exact absurd rfl (hd e)

theorem access_some {c : Cfg} {s : St} {i : Nat} {a : Access} (h : access c s i = some a) :
    inside (s.pc i) = true ∧ (a = .read i (c.req i) s.lock ∨ a = .write i (c.req i) s.lock) := by
  unfold access at h
  split at h
  · rename_i hp; rw [hp]; exact ⟨rfl, .inl (Option.some.inj h).symm⟩
  · rename_i hp; rw [hp]; exact ⟨rfl, .inr (Option.some.inj h).symm⟩
  · cases h

theorem inside_of_access {c : Cfg} {s : St} {k : Nat} (hk : access c s k ≠ none) :
    inside (s.pc k) = true :=
  have ⟨_, ha⟩ := Option.ne_none_iff_exists'.mp hk
  (access_some ha).1

theorem step_progress (c : Cfg) (s : St) (j : Nat) (hi : s.pc j = .idle → s.lock = none)
    (hd : ∀ e, s.pc j ≠ .done e) : (step c s j).pc j ≠ s.pc j := by
  cases hp : s.pc j <;> simp only [step, hp]
  case idle => rw [if_pos (hi hp)]; simp
  case done e => exact absurd hp (hd e)
  all_goals (try split) <;> simp

end Gomacro.Sched
