import Gomacro.RoundTrip
import Gomacro.Lemmas.Encode
/-!
The strict typing `RoundTrip.wt` and the decoder `RoundTrip.decode` through equations, as
`Lemmas/Encode.lean` does for `hasType` and `encode`.
-/
namespace Gomacro.RoundTrip
open Gomacro.IR Gomacro.GoJson Gomacro.E2E

variable {env : Env} {w : Wrappers} {n : Nat}

/-! ### typing -/

theorem wtAll_eq (e : Ty) : ∀ es, wtAll env n e es = es.all (wt env n e)
  | [] => by rw [wtAll, List.all_nil]
  | v :: vs => by rw [wtAll, wtAll_eq e vs, List.all_cons]

theorem wtEntries_eq (k e : Ty) : ∀ kvs, wtEntries env n k e kvs = kvs.all fun kv => keyOk k kv.1 && wt env n e kv.2
  | [] => by rw [wtEntries, List.all_nil]
  | (key, v) :: kvs => by rw [wtEntries, wtEntries_eq k e kvs, List.all_cons]

theorem wt_basic (g : String) (bk : BKind) (v : GoVal) : wt env (n + 1) (.basic g bk) v = kindMatches bk v := by
  rw [wt.eq_def]; cases bk <;> cases v <;> rfl

theorem wt_time {d : Bool} {v : GoVal} (h : wt env (n + 1) (.time d) v = true) : ∃ s, v = .time s := by
  cases v <;> simp_all [wt]

/-- a value of basic kind: the four scalar shapes -/
theorem kindMatches_cases {bk : BKind} {v : GoVal} (h : kindMatches bk v = true) :
    (bk = .bool ∧ ∃ b, v = .bool b) ∨ (bk = .int ∧ ∃ r, v = .int r) ∨ (bk = .float ∧ ∃ r, v = .float r) ∨
      (bk = .str ∧ ∃ s, v = .str s) := by
  cases v with
  | bool b => cases bk <;> simp [kindMatches] at h; exact .inl ⟨rfl, b, rfl⟩
  | int r => cases bk <;> simp [kindMatches] at h; exact .inr (.inl ⟨rfl, r, rfl⟩)
  | float r => cases bk <;> simp [kindMatches] at h; exact .inr (.inr (.inl ⟨rfl, r, rfl⟩))
  | str s => cases bk <;> simp [kindMatches] at h; exact .inr (.inr (.inr ⟨rfl, s, rfl⟩))
  | _ => cases bk <;> simp [kindMatches] at h

/-- a slice or array value is a `[]byte`, or a list: nil only as an empty slice -/
theorem wt_arr {k : Int} {e : Ty} {v : GoVal} : wt env (n + 1) (.arr k e) v = true ↔
    (∃ nl b, v = .bytes nl b ∧ k < 0 ∧ isByteElem e = true ∧ (nl = true → b = "")) ∨
    (∃ nl es, v = .list (decide (k < 0)) nl es ∧ (k < 0 → isByteElem e = false) ∧ (k < 0 ∨ es.length = k.toNat) ∧
      (nl = true → k < 0 ∧ es = []) ∧ ∀ x ∈ es, wt env n e x = true) := by
  constructor
  · intro h
    cases v <;> simp [wt, wtAll_eq] at h
    · obtain ⟨⟨⟨⟨hnb, rfl⟩, hl⟩, hn⟩, ha⟩ := h
      exact Or.inr ⟨_, _, rfl, fun hk => hnb.resolve_left (by omega), hl, fun hn' => by simpa using hn.resolve_left (by simp [hn']), ha⟩
    · exact Or.inl ⟨_, _, rfl, h.1.1, h.1.2, fun hn' => h.2.resolve_left (by simp [hn'])⟩
  · rintro (⟨nl, b, rfl, hk, hb, hn⟩ | ⟨nl, es, rfl, hnb, hl, hn, ha⟩)
    · cases nl <;> simp_all [wt]
    · cases nl <;> by_cases hk : k < 0 <;> simp_all [wt, wtAll_eq] <;> omega

theorem wt_map {k e : Ty} {v : GoVal} : wt env (n + 1) (.map k e) v = true ↔
    ∃ nl kvs, v = .map nl kvs ∧ (nl = true → kvs = []) ∧ ∀ kv ∈ kvs, keyOk k kv.1 = true ∧ wt env n e kv.2 = true := by
  constructor
  · intro h
    cases v <;> simp [wt, wtEntries_eq] at h
    exact ⟨_, _, rfl, fun hn' => h.1.resolve_left (by simp [hn']), fun kv hkv => h.2 kv.1 kv.2 hkv⟩
  · rintro ⟨nl, kvs, rfl, hn, h⟩
    simp only [wt, wtEntries_eq, Bool.and_eq_true, List.all_eq_true, Bool.or_eq_true, Bool.not_eq_true', List.isEmpty_iff]
    exact ⟨by cases nl <;> simp_all, h⟩

section ref
variable {q : String} {d : Decl} (hf : env.find? q = some d)
include hf

theorem wt_named {u : Ty} (hb : d.body = .named u) (v : GoVal) : wt env (n + 1) (.ref q) v = wt env n u v := by
  simp [wt, hf, hb]

theorem wt_enum {un : String} {bk : BKind} {ms : List Member} {io : Bool} (hb : d.body = .enum un bk ms io)
    (v : GoVal) : wt env (n + 1) (.ref q) v = ((ms.any fun m => litOk m v) && kindMatches bk v) := by
  simp [wt, hf, hb]

theorem wt_struct {fs : List Field} {cs : List Comment} {im : List String} (hb : d.body = .struct fs cs im)
    {v : GoVal} : wt env (n + 1) (.ref q) v = true ↔ ∃ vals, v = .struct vals ∧ wtFields env n fs vals = true := by
  constructor
  · intro h
    cases v <;> simp [wt, hf, hb] at h
    exact ⟨_, rfl, h⟩
  · rintro ⟨vals, rfl, h⟩
    simpa [wt, hf, hb] using h

theorem wt_union {ms : List Ty} (hb : d.body = .union ms) {v : GoVal} :
    wt env (n + 1) (.ref q) v = true ↔ ∃ name mv, v = .iface (some (name, mv)) ∧
      ms.any (fun m => localNameOf env m == name) = true ∧ wt env n (memberTy env d name) mv = true := by
  constructor
  · intro h
    rcases v with _ | _ | _ | _ | _ | _ | _ | _ | _ | _ | ⟨name, mv⟩ <;>
      simp only [wt, hf, hb, Bool.and_eq_true, Bool.false_eq_true] at h
    exact ⟨_, _, rfl, h⟩
  · rintro ⟨name, mv, rfl, h⟩
    simpa only [wt, hf, hb, Bool.and_eq_true] using h

end ref

theorem wtFields_mono {m : Nat} (ih : ∀ t v, wt env n t v = true → wt env m t v = true) :
    ∀ fs vals, wtFields env n fs vals = true → wtFields env m fs vals = true
  | [], vals, h => by simpa [wtFields] using h
  | f :: fs, vals, h => by
    unfold wtFields at h ⊢
    by_cases hs : isSer f = true
    · rw [if_pos hs] at h ⊢
      cases vals with
      | nil => cases h
      | cons p rest =>
        simp only [Bool.and_eq_true] at h ⊢
        exact ⟨⟨h.1.1, ih f.ty p.2 h.1.2⟩, wtFields_mono ih fs rest h.2⟩
    · rw [if_neg hs] at h ⊢
      exact wtFields_mono ih fs vals h

/-- what strict typing of the fields gives: the value lists the serialised fields in order -/
theorem wtFields_names : ∀ (fs : List Field) (vals : List (String × GoVal)), wtFields env n fs vals = true →
    vals.map (·.1) = (serialised fs).map (·.name)
  | [], vals, h => by
    have : vals = [] := by simpa [wtFields] using h
    subst this; rfl
  | f :: fs, vals, h => by
    unfold wtFields at h
    simp only [serialised, List.filter_cons]
    by_cases hs : isSer f = true
    · rw [if_pos hs] at h
      rw [show (Tags.goJsonKey f.tag f.name f.goExported).isSome = true from hs, if_pos rfl]
      cases vals with
      | nil => cases h
      | cons p rest =>
        simp only [Bool.and_eq_true, beq_iff_eq] at h
        rw [List.map_cons, List.map_cons, h.1.1, wtFields_names fs rest h.2]; rfl
    · rw [if_neg hs] at h
      rw [show (Tags.goJsonKey f.tag f.name f.goExported).isSome = false from by simpa [isSer] using hs]
      exact wtFields_names fs vals h

theorem wtFields_mem : ∀ (fs : List Field) (vals : List (String × GoVal)), wtFields env n fs vals = true →
    ∀ f ∈ serialised fs, ∃ v, (f.name, v) ∈ vals ∧ wt env n f.ty v = true
  | [], _, _, f, hf => by simp [serialised] at hf
  | f0 :: fs, vals, h, f, hf => by
    unfold wtFields at h
    rw [serialised, List.filter_cons] at hf
    by_cases hs : isSer f0 = true
    · rw [if_pos hs] at h
      rw [show (Tags.goJsonKey f0.tag f0.name f0.goExported).isSome = true from hs, if_pos rfl] at hf
      cases vals with
      | nil => cases h
      | cons p rest =>
        simp only [Bool.and_eq_true, beq_iff_eq] at h
        rcases List.mem_cons.mp hf with rfl | hf
        · exact ⟨p.2, by rw [← h.1.1]; exact List.mem_cons_self, h.1.2⟩
        · obtain ⟨v, hv, hw⟩ := wtFields_mem fs rest h.2 f hf
          exact ⟨v, List.mem_cons_of_mem _ hv, hw⟩
    · rw [if_neg hs] at h
      rw [show (Tags.goJsonKey f0.tag f0.name f0.goExported).isSome = false from by simpa [isSer] using hs] at hf
      exact wtFields_mem fs vals h f hf

variable (env) in
/-- typing is monotone in the fuel (the generated methods of a named container encode the elements
one level of fuel higher than the typing looks at them) -/
theorem wt_mono : ∀ (n : Nat) (t : Ty) (v : GoVal), wt env n t v = true → wt env (n + 1) t v = true
  | 0, _, _, h => by simp [wt] at h
  | n + 1, t, v, h => by
    have ih := wt_mono n
    cases t with
    | basic g bk => rw [wt_basic] at h ⊢; exact h
    | time d => obtain ⟨s, rfl⟩ := wt_time h; simp [wt]
    | arr k e =>
      refine wt_arr.mpr ((wt_arr.mp h).imp id ?_)
      rintro ⟨nl, es, rfl, hnb, hl, hn, ha⟩
      exact ⟨nl, es, rfl, hnb, hl, hn, fun x hx => ih e x (ha x hx)⟩
    | map k e =>
      obtain ⟨nl, kvs, rfl, hn, ha⟩ := wt_map.mp h
      exact wt_map.mpr ⟨nl, kvs, rfl, hn, fun kv hkv => ⟨(ha kv hkv).1, ih e _ (ha kv hkv).2⟩⟩
    | ptr e => simp [wt] at h
    | ref q =>
      cases hf : env.find? q with
      | none => simp [wt, hf] at h
      | some d =>
        cases hb : d.body with
        | named u => rw [wt_named hf hb] at h ⊢; exact ih u v h
        | enum un bk ms io => rw [wt_enum hf hb] at h ⊢; exact h
        | struct fs cs im =>
          obtain ⟨vals, rfl, hv⟩ := (wt_struct hf hb).mp h
          exact (wt_struct hf hb).mpr ⟨vals, rfl, wtFields_mono ih fs vals hv⟩
        | union ms =>
          obtain ⟨name, mv, rfl, hany, hmv⟩ := (wt_union hf hb).mp h
          exact (wt_union hf hb).mpr ⟨name, mv, rfl, hany, ih _ mv hmv⟩

/-! ### the zero value -/

theorem zeroVal_basic (g : String) (bk : BKind) : zeroVal env (n + 1) (.basic g bk) = zeroScalar bk := by
  rw [zeroVal]

theorem zeroVal_arr (k : Int) (e : Ty) : zeroVal env (n + 1) (.arr k e) =
    if k < 0 then (if isByteElem e then .bytes true "" else .list true true [])
    else .list false false (List.replicate k.toNat (zeroVal env n e)) := by
  rw [zeroVal]

theorem zeroVal_map (k e : Ty) : zeroVal env (n + 1) (.map k e) = .map true [] := by
  rw [zeroVal]

theorem zeroVal_named {q : String} {d : Decl} (hf : env.find? q = some d) {u : Ty} (hb : d.body = .named u) :
    zeroVal env (n + 1) (.ref q) = zeroVal env n u := by
  simp only [zeroVal, hf, hb]

theorem zeroVal_enum {q : String} {d : Decl} (hf : env.find? q = some d) {un : String} {bk : BKind} {ms : List Member}
    {io : Bool} (hb : d.body = .enum un bk ms io) : zeroVal env (n + 1) (.ref q) = zeroScalar bk := by
  simp only [zeroVal, hf, hb]

/-- an empty value of basic kind is the zero value of its kind -/
theorem empty_scalar {bk : BKind} {v : GoVal} (hk : kindMatches bk v = true) (he : isEmptyVal v = true) :
    v = zeroScalar bk := by
  rcases kindMatches_cases hk with ⟨rfl, b, rfl⟩ | ⟨rfl, r, rfl⟩ | ⟨rfl, r, rfl⟩ | ⟨rfl, s, rfl⟩ <;>
    simpa [isEmptyVal, zeroScalar] using he

/-! ### the decoder -/

theorem decodeScalar_scalarDoc {bk : BKind} {v : GoVal} (h : kindMatches bk v = true) :
    decodeScalar bk (scalarDoc v) = some v := by
  obtain ⟨rfl, _, rfl⟩ | ⟨rfl, _, rfl⟩ | ⟨rfl, _, rfl⟩ | ⟨rfl, _, rfl⟩ := kindMatches_cases h <;> rfl

theorem decode_basic (wr : Bool) (g : String) (bk : BKind) (j : JVal) :
    decode env w (n + 1) wr (.basic g bk) j = decodeScalar bk j := by
  rw [decode.eq_def]

theorem decode_time (wr d : Bool) (s : String) : decode env w (n + 1) wr (.time d) (.str s) = some (.time s) := by
  simp [decode]

theorem decode_arr_null (wr : Bool) (k : Int) (e : Ty) : decode env w (n + 1) wr (.arr k e) .null =
    if k < 0 then (if isByteElem e then some (.bytes true "") else some (.list true true [])) else none := by
  simp [decode]

theorem decode_arr_str (wr : Bool) (k : Int) (e : Ty) (b : String) : decode env w (n + 1) wr (.arr k e) (.str b) =
    if k < 0 && isByteElem e then some (.bytes false b) else none := by
  simp [decode]

theorem decode_arr (wr : Bool) (k : Int) (e : Ty) (l : List JVal) : decode env w (n + 1) wr (.arr k e) (.arr l) =
    (decodeList env w n false e l).bind fun es =>
      if k < 0 then some (.list true false es)
      else if es.length == k.toNat then some (.list false false es) else none := by
  simp [decode]

theorem decode_map_null (wr : Bool) (k e : Ty) : decode env w (n + 1) wr (.map k e) .null = some (.map true []) := by
  simp [decode]

theorem decode_map (wr : Bool) (k e : Ty) (kvs : List (String × JVal)) :
    decode env w (n + 1) wr (.map k e) (.obj kvs) = (decodeEntries env w n false k e kvs).map fun es => .map false es := by
  simp [decode]

section ref
variable {q : String} {d : Decl} (hf : env.find? q = some d)
include hf

theorem decode_named {u : Ty} (hb : d.body = .named u) (hw : w.nameds.contains q = false) (wr : Bool) (j : JVal) :
    decode env w (n + 1) wr (.ref q) j = decode env w n false u j := by
  have hw : q ∉ w.nameds := by simpa using hw
  simp [decode, hf, hb, hw]

/-- the generated `UnmarshalJSON` of a named slice of unions: element-wise through the wrapper,
into a freshly made slice -/
theorem decode_namedSlice {k : Int} {e : Ty} (hb : d.body = .named (.arr k e)) (hw : w.nameds.contains q = true)
    (wr : Bool) (l : List JVal) : decode env w (n + 1) wr (.ref q) (.arr l) =
      (decodeList env w n true e l).map fun es => .list true false es := by
  simp only [decode, hf, hb, hw, if_true]

theorem decode_namedMap {k e : Ty} (hb : d.body = .named (.map k e)) (hw : w.nameds.contains q = true)
    (wr : Bool) (kvs : List (String × JVal)) : decode env w (n + 1) wr (.ref q) (.obj kvs) =
      (decodeEntries env w n true k e kvs).map fun es => .map false es := by
  simp only [decode, hf, hb, hw, if_true]

theorem decode_enum {un : String} {bk : BKind} {ms : List Member} {io : Bool} (hb : d.body = .enum un bk ms io)
    (wr : Bool) (j : JVal) : decode env w (n + 1) wr (.ref q) j = decodeScalar bk j := by
  simp [decode, hf, hb]

theorem decode_struct {fs : List Field} {cs : List Comment} {im : List String} (hb : d.body = .struct fs cs im)
    (wr : Bool) (kvs : List (String × JVal)) : decode env w (n + 1) wr (.ref q) (.obj kvs) =
      (decodeFields env w n (w.structs.contains q) fs kvs).map fun vals => .struct vals := by
  simp [decode, hf, hb]

/-- the generated wrapper reads `{"Kind": name, "Data": value}` and dispatches on the Kind -/
theorem decode_union {ms : List Ty} (hb : d.body = .union ms) (name : String) (data : JVal) :
    decode env w (n + 1) true (.ref q) (.obj [("Data", data), ("Kind", .str name)]) =
      (decode env w n false (memberTy env d name) data).map fun mv => .iface (some (name, mv)) := by
  simp [decode, hf, hb, List.lookup]

end ref

end Gomacro.RoundTrip
