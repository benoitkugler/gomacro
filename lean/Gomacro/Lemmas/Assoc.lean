/-! Association lists with `String` keys (core only). -/
namespace Gomacro
open List

theorem lookup_cons_ne {β} {k k' : String} {b : β} {es : List (String × β)} (h : k ≠ k') :
    ((k', b) :: es).lookup k = es.lookup k := by
  simp only [lookup_cons, beq_eq_false_iff_ne.mpr h]

theorem lookup_filter_ne {β} (m : List (String × β)) {k k' : String} (h : k ≠ k') :
    (m.filter fun e => e.1 != k').lookup k = m.lookup k := by
  induction m with
  | nil => rfl
  | cons e es ih =>
    obtain ⟨k₁, v₁⟩ := e
    by_cases he : k₁ = k'
    · simp [he, ih, lookup_cons_ne h]
    · simp [he, ih, lookup_cons]

/-- with distinct keys an association list is its graph -/
theorem lookup_eq_some_iff_mem {β} {l : List (String × β)} (nd : (l.map (·.1)).Nodup)
    {k : String} {v : β} : l.lookup k = some v ↔ (k, v) ∈ l := by
  induction l with
  | nil => simp
  | cons e es ih =>
    obtain ⟨k', v'⟩ := e
    obtain ⟨hk', nd⟩ := nodup_cons.mp nd
    by_cases h : k = k'
    · subst h
      have : (k, v) ∉ es := fun hm => hk' (mem_map.mpr ⟨_, hm, rfl⟩)
      simp [this, eq_comm]
    · simp [lookup_cons_ne h, h, ih nd]

end Gomacro
