import Gomacro.Lemmas.Encode
import Gomacro.Props.C09
/-!
What the fragments of the end-to-end theorems (`E2E.Fragment`, `RoundTrip.FragmentRT`,
`RoundTrip.FragmentN`, `E2ESql.FragmentSql`) have in common: types over the declarations `ds` of
the program (`TyIn`), and the two kinds of position a value is encoded in — union-free and
unwrapped, or a union of the program in a wrapped position.
-/
namespace Gomacro.E2E
open Gomacro.IR Gomacro.GoJson

def TyIn (ds : List Decl) (t : Ty) : Prop := ∀ q ∈ t.refs, ∃ d ∈ ds, d.q = q

variable {env : Env} {ds : List Decl}

theorem tyIn_arr {n : Int} {e : Ty} (h : TyIn ds (.arr n e)) : TyIn ds e := fun q hq => h q (by simpa [Ty.refs] using hq)
theorem tyIn_map {k e : Ty} (h : TyIn ds (.map k e)) : TyIn ds k ∧ TyIn ds e :=
  ⟨fun q hq => h q (by simp [Ty.refs, hq]), fun q hq => h q (by simp [Ty.refs, hq])⟩
theorem tyIn_ref {q : String} : TyIn ds (.ref q) ↔ ∃ d ∈ ds, d.q = q := by simp [TyIn, Ty.refs]

/-- the types a declaration contains are over `ds` when the declaration is closed in `ds` -/
theorem tyIn_of_closed {ts : List Ty} (hc : ∀ q ∈ ts.flatMap Ty.refs, ∃ d' ∈ ds, d'.q = q) {t : Ty} (ht : t ∈ ts) :
    TyIn ds t := fun q hq => hc q (List.mem_flatMap.mpr ⟨t, ht, hq⟩)

theorem isUnionTy_iff {t : Ty} :
    isUnionTy env t = true ↔ ∃ q d ms, t = .ref q ∧ env.find? q = some d ∧ d.body = .union ms := by
  cases t <;> simp only [isUnionTy, Ty.ref.injEq, exists_and_left, exists_eq_left', reduceCtorEq, false_and, exists_false,
    Bool.false_eq_true]
  rename_i q
  cases env.find? q with
  | none => simp
  | some d => cases hb : d.body <;> simp [hb]

/-- the two kinds of position a value is encoded in: a union written through the generated wrapper
(`wr`), or a type that contains no union -/
def pos (env : Env) : Bool → Ty → Bool
  | true, t => isUnionTy env t
  | false, t => noUnion env t

/-- a field of a struct that has a shadow struct whenever a field is a union -/
theorem pos_field {t : Ty} {sh : Bool} (h : isUnionTy env t = true ∨ noUnion env t = true)
    (hsh : isUnionTy env t = true → sh = true) : pos env (sh && isUnionTy env t) t = true := by
  cases hu : isUnionTy env t
  · simpa [pos, hu] using h
  · simp [pos, hu, hsh hu]

/-- `memberTy`'s test: the member is the declaration locally named `name` -/
def namedBy (env : Env) (name : String) : Ty → Bool
  | .ref q => (match env.find? q with | some md => md.name == name | none => false)
  | _ => false

theorem memberTy_union {ud : Decl} {ms : List Ty} (hb : ud.body = .union ms) (name : String) :
    memberTy env ud name = ((ms.find? (namedBy env name)).getD (.ref "")) := by
  simp only [memberTy, hb]
  show (match ms.find? (namedBy env name) with | some t => t | none => Ty.ref "") = _
  cases ms.find? (namedBy env name) <;> rfl

/-- a field whose json tag names a key `encoding/json` accepts (or none) is written under `fkey` -/
theorem fkey_of_key {f : Field}
    (hv : (Tags.namePart (Tags.get f.tag "json") == "" || Tags.isValidTag (Tags.namePart (Tags.get f.tag "json"))) = true)
    {k : String} (hk : Tags.goJsonKey f.tag f.name f.goExported = some k) : k = fkey f := by
  simp only [Bool.or_eq_true, beq_iff_eq] at hv
  exact (Tags.C09_key_eq f.tag f.name f.goExported k hv hk).symm

/-- the generators select the fields `encoding/json` serialises, when none of these is hidden from
them by `gomacro:"ignore"` -/
theorem filter_exported {fs : List Field} (h : ∀ f ∈ serialised fs, Tags.get f.tag "gomacro" ≠ "ignore") :
    fs.filter (fun f => Tags.exported f.tag f.goExported) = serialised fs := by
  refine List.filter_congr fun f hf => ?_
  have hiff := Tags.C09_selected_iff f.tag f.name f.goExported
  by_cases hs : isSer f = true
  · exact (hiff.mpr ⟨hs, h f (mem_serialised.mpr ⟨hf, hs⟩)⟩).trans hs.symm
  · rw [Bool.not_eq_true] at hs
    rw [show (Tags.goJsonKey f.tag f.name f.goExported).isSome = false from hs]
    exact Bool.not_eq_true _ |>.mp fun he => by simp [isSer, (hiff.mp he).1] at hs

variable (hfound : ∀ d ∈ ds, env.find? d.q = some d)
include hfound

/-- the member type a Kind names: the members of a union of the fragment are references to
declarations of `ds`, so the typing's `localNameOf` test and `memberTy`'s search agree -/
theorem memberTy_of_any {ud : Decl} {ms : List Ty} (hb : ud.body = .union ms) (hms : ∀ m ∈ ms, ∃ md ∈ ds, m = .ref md.q)
    {name : String} (hany : ms.any (fun m => localNameOf env m == name) = true) :
    ∃ md ∈ ds, memberTy env ud name = .ref md.q ∧ .ref md.q ∈ ms ∧ md.name = name := by
  obtain ⟨m, hm, hn⟩ := List.any_eq_true.mp hany
  obtain ⟨md, hmd, rfl⟩ := hms m hm
  have hsome : (ms.find? (namedBy env name)).isSome = true :=
    List.find?_isSome.mpr ⟨_, hm, by simpa [namedBy, localNameOf, hfound md hmd] using hn⟩
  obtain ⟨m0, h0⟩ := Option.isSome_iff_exists.mp hsome
  obtain ⟨md0, hmd0, rfl⟩ := hms m0 (List.mem_of_find?_eq_some h0)
  refine ⟨md0, hmd0, by rw [memberTy_union hb, h0]; rfl, List.mem_of_find?_eq_some h0, ?_⟩
  simpa [namedBy, hfound md0 hmd0] using List.find?_some h0

/-- the positions at types over `ds`, by the shape of the type and, at a reference, of the
declaration: the cases of the inductions on the encoder's fuel -/
inductive Pos (env : Env) (ds : List Decl) : Bool → Ty → Prop
  | basic (g : String) (bk : BKind) : Pos env ds false (.basic g bk)
  | time (d : Bool) : Pos env ds false (.time d)
  | arr {k : Int} {e : Ty} : pos env false e = true → Pos env ds false (.arr k e)
  | map {k e : Ty} : pos env false e = true → Pos env ds false (.map k e)
  | named {d : Decl} {u : Ty} : d ∈ ds → d.body = .named u → Pos env ds false (.ref d.q)
  | struct {d : Decl} {fs : List Field} {cs : List Comment} {im : List String} :
      d ∈ ds → d.body = .struct fs cs im → Pos env ds false (.ref d.q)
  | enum {d : Decl} {un : String} {bk : BKind} {ms : List Member} {io : Bool} :
      d ∈ ds → d.body = .enum un bk ms io → Pos env ds false (.ref d.q)
  | union {d : Decl} {ms : List Ty} : d ∈ ds → d.body = .union ms → Pos env ds true (.ref d.q)

theorem pos_view {wr : Bool} {t : Ty} (hin : TyIn ds t) (hpos : pos env wr t = true) : Pos env ds wr t := by
  cases wr with
  | true =>
    obtain ⟨q, d, ms, rfl, hf, hb⟩ := isUnionTy_iff.mp hpos
    obtain ⟨d', hd', rfl⟩ := tyIn_ref.mp hin
    cases (hfound d' hd').symm.trans hf
    exact .union hd' hb
  | false =>
    cases t with
    | basic g bk => exact .basic g bk
    | time d => exact .time d
    | arr k e => exact .arr hpos
    | map k e => exact .map ((Bool.and_eq_true _ _).mp hpos).2
    | ptr e => cases hpos
    | ref q =>
      obtain ⟨d, hd, rfl⟩ := tyIn_ref.mp hin
      cases hb : d.body with
      | named u => exact .named hd hb
      | struct fs cs im => exact .struct hd hb
      | enum un bk ms io => exact .enum hd hb
      | union ms => simp [pos, noUnion, isUnionTy, hfound d hd, hb] at hpos

end Gomacro.E2E
