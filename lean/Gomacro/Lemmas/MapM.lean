/-! `List.mapM` into `Option`: what a successful run says about the results (core only). -/
namespace List

theorem mapM_cons_eq_some {α β} {g : α → Option β} {x : α} {xs : List α} {rs : List β} :
    (x :: xs).mapM g = some rs ↔ ∃ r rs', g x = some r ∧ xs.mapM g = some rs' ∧ rs = r :: rs' := by
  simp only [List.mapM_cons, Option.bind_eq_bind, Option.bind_eq_some_iff, Option.pure_def, Option.some.injEq,
    exists_and_left, @eq_comm _ rs]

theorem mapM_some_fun {α β} (g : α → β) (l : List α) : l.mapM (fun x => some (g x)) = some (l.map g) :=
  List.mapM_pure

/-- a function that answers wherever `g` does gives the same results -/
theorem mapM_refines {α β} {g g' : α → Option β} (hg : ∀ x r, g x = some r → g' x = some r) :
    ∀ {l : List α} {rs : List β}, l.mapM g = some rs → l.mapM g' = some rs
  | [], _, h => h
  | _ :: _, _, h => by
    obtain ⟨r, rs', hx, hxs, rfl⟩ := mapM_cons_eq_some.mp h
    exact mapM_cons_eq_some.mpr ⟨r, rs', hg _ r hx, mapM_refines hg hxs, rfl⟩

/-- a projection that every single result shares with its argument is shared by the lists -/
theorem map_of_mapM {α β γ} {g : α → Option β} {a : α → γ} {b : β → γ} (h : ∀ x y, g x = some y → b y = a x) :
    ∀ {l : List α} {rs : List β}, l.mapM g = some rs → rs.map b = l.map a
  | [], rs, e => by cases (Option.some.inj e : [] = rs); rfl
  | x :: xs, rs, e => by
    obtain ⟨r, rs', hx, hxs, rfl⟩ := mapM_cons_eq_some.mp e
    rw [List.map_cons, List.map_cons, h x r hx, map_of_mapM h hxs]

/-- every argument has a result with `P`: the run succeeds and every result has `P` -/
theorem mapM_of_forall {α β} {g : α → Option β} {P : β → Prop} :
    ∀ (l : List α), (∀ x ∈ l, ∃ r, g x = some r ∧ P r) → ∃ rs, l.mapM g = some rs ∧ ∀ r ∈ rs, P r
  | [], _ => ⟨[], rfl, fun _ h => nomatch h⟩
  | a :: as, h => by
    obtain ⟨r, hr, hp⟩ := h a List.mem_cons_self
    obtain ⟨rs, hrs, hps⟩ := mapM_of_forall as fun x hx => h x (List.mem_cons_of_mem _ hx)
    exact ⟨r :: rs, mapM_cons_eq_some.mpr ⟨r, rs, hr, hrs, rfl⟩, List.forall_mem_cons.mpr ⟨hp, hps⟩⟩

end List
