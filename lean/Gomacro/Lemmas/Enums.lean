import Gomacro.Analysis
/-! Lemmas for C10 about the list functions of the enum model: the insertion sort `sortByVal`,
`dedupInts`, `maxInt`, and what the arithmetic test of `isIotaDecision` says (`perm_range_iff`). -/
namespace Gomacro.Analysis
open List Gomacro.IR

theorem insertByVal_perm (m : Member) (l : List Member) : (insertByVal m l).Perm (m :: l) := by
  induction l with
  | nil => exact .refl _
  | cons x xs ih =>
    rw [insertByVal]
    split
    · exact .refl _
    · exact (ih.cons x).trans (.swap m x xs)

theorem insertByVal_sorted (m : Member) (l : List Member)
    (h : l.Pairwise (fun a b => a.int ≤ b.int)) :
    (insertByVal m l).Pairwise (fun a b => a.int ≤ b.int) := by
  induction l with
  | nil => exact pairwise_singleton _ _
  | cons x xs ih =>
    have ⟨hx, hxs⟩ := pairwise_cons.mp h
    rw [insertByVal]
    split
    · exact pairwise_cons.mpr ⟨forall_mem_cons.mpr ⟨by omega, fun a ha => by have := hx a ha; omega⟩, h⟩
    · refine pairwise_cons.mpr ⟨fun a ha => ?_, ih hxs⟩
      rcases mem_cons.mp ((insertByVal_perm m xs).subset ha) with rfl | ha
      · omega
      · exact hx a ha

theorem sortByVal_perm (ms : List Member) : (sortByVal ms).Perm ms := by
  induction ms with
  | nil => exact .refl _
  | cons m ms ih => exact (insertByVal_perm m _).trans (ih.cons m)

theorem sortByVal_sorted (ms : List Member) :
    (sortByVal ms).Pairwise (fun a b => a.int ≤ b.int) := by
  induction ms with
  | nil => exact .nil
  | cons m ms ih => exact insertByVal_sorted m _ ih

theorem dedupInts_sublist : ∀ l : List Int, dedupInts l <+ l
  | [] => .slnil
  | x :: xs => by
    rw [dedupInts]
    split
    · exact (dedupInts_sublist xs).cons x
    · exact (dedupInts_sublist xs).cons_cons x

theorem dedupInts_length_eq {l : List Int} : (dedupInts l).length = l.length ↔ l.Nodup := by
  induction l with
  | nil => simp [dedupInts]
  | cons x xs ih =>
    have := (dedupInts_sublist xs).length_le
    rw [dedupInts]
    split <;> rename_i hc <;> simp only [contains_iff_mem] at hc
    · -- `x` occurs again and is dropped: the result is shorter, and the list has a duplicate
      exact ⟨fun h => by simp only [length_cons] at h; omega, fun h => absurd hc (nodup_cons.mp h).1⟩
    · simp [hc, ← ih]

theorem le_maxInt {l : List Int} {x : Int} (h : x ∈ l) : x ≤ maxInt l := by
  induction l with
  | nil => cases h
  | cons y ys ih =>
    rw [maxInt]
    rcases mem_cons.mp h with rfl | h
    · split <;> omega
    · have := ih h
      split <;> omega

theorem maxInt_mem_or {l : List Int} : maxInt l = -1 ∨ maxInt l ∈ l := by
  induction l with
  | nil => exact .inl rfl
  | cons y ys ih =>
    rw [maxInt]
    split
    · exact .inr mem_cons_self
    · exact ih.imp_right (mem_cons_of_mem _)

/-- pigeonhole: a duplicate-free list inside a list that is no longer exhausts it -/
theorem subset_of_nodup_of_length_le {α} {l₁ l₂ : List α} (d : l₁.Nodup) (hsub : l₁ ⊆ l₂)
    (hlen : l₂.length ≤ l₁.length) : l₂ ⊆ l₁ := by
  classical
  intro a ha
  refine Classical.byContradiction fun hna => ?_
  have := d.length_le_of_subset (l₂ := l₂.erase a) fun x hx =>
    (mem_erase_of_ne fun e : x = a => hna (e ▸ hx)).mpr (hsub hx)
  rw [length_erase_of_mem ha] at this
  have := length_pos_of_mem ha
  omega

/-- the arithmetic test of `isIotaDecision`: no duplicate and the largest value is the length - 1 -/
theorem perm_range_iff {l : List Int} (h0 : ∀ x ∈ l, 0 ≤ x) :
    l.Perm ((range l.length).map (fun (i : Nat) => (i : Int))) ↔
      l.Nodup ∧ maxInt l + 1 = l.length := by
  have hr : ((range l.length).map (fun (i : Nat) => (i : Int))).Nodup :=
    pairwise_map.mpr (nodup_range.imp fun {a b} h => by omega)
  constructor
  · intro hp
    refine ⟨hp.symm.nodup hr, ?_⟩
    have hge : ∀ i < l.length, (i : Int) ≤ maxInt l := fun i hi =>
      le_maxInt (hp.symm.subset (mem_map.mpr ⟨i, mem_range.mpr hi, rfl⟩))
    have := hge (l.length - 1)
    rcases maxInt_mem_or (l := l) with h | h
    · omega
    · obtain ⟨i, hi, he⟩ := mem_map.mp (hp.subset h)
      have := mem_range.mp hi
      omega
  · intro ⟨hnd, hmax⟩
    have hsub : l ⊆ (range l.length).map (fun (i : Nat) => (i : Int)) := fun x hx => by
      have hx0 := Int.toNat_of_nonneg (h0 x hx)
      have := le_maxInt hx
      exact mem_map.mpr ⟨x.toNat, mem_range.mpr (by omega), hx0⟩
    exact (perm_ext_iff_of_nodup hnd hr).mpr fun a =>
      ⟨fun h => hsub h, fun h => subset_of_nodup_of_length_le hnd hsub (by simp) h⟩

end Gomacro.Analysis
