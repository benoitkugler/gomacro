import Gomacro.TsGen
/-!
# Typing of Go values and the fragment of programs for the end-to-end theorems

`hasType env fuel t v`: the dumped Go value `v` is a value of the IR type `t` (mirrors the recursion
of `GoJson.encode`, so that the two can be unfolded together).
`Fragment`: the decidable conditions on a program under which the end-to-end theorem of C03 is
proved (`Props/C03E2E.lean`): they are exactly the complement of the recorded findings of C02 / C03
(omitempty, `,string`, gomacro-ignore, `[]byte`, zero-length arrays, unions behind anonymous
containers, same name in two packages). The driver evaluates them on every synthesised program.
-/
namespace Gomacro.E2E
open Gomacro.IR Gomacro.GoJson Gomacro.TsGen

/-! ### decidable equality of TypeScript types -/

mutual
def tsBeq : TsType → TsType → Bool
  | .str, .str | .num, .num | .bool, .bool | .null, .null | .unknown, .unknown | .never, .never => true
  | .litStr a, .litStr b => a == b
  | .litNum a, .litNum b => a == b
  | .litBool a, .litBool b => a == b
  | .arr a, .arr b => tsBeq a b
  | .tuple a, .tuple b => tsBeqList a b
  | .record k v, .record k' v' => tsBeq k k' && tsBeq v v'
  | .union a, .union b => tsBeqList a b
  | .obj a, .obj b => tsBeqFields a b
  | .ref a, .ref b => a == b
  | .brand a s, .brand b s' => tsBeq a b && s == s'
  | _, _ => false
def tsBeqList : List TsType → List TsType → Bool
  | [], [] => true
  | a :: as, b :: bs => tsBeq a b && tsBeqList as bs
  | _, _ => false
def tsBeqFields : List (String × TsType) → List (String × TsType) → Bool
  | [], [] => true
  | (k, a) :: as, (k', b) :: bs => k == k' && tsBeq a b && tsBeqFields as bs
  | _, _ => false
end

/-! ### typing -/

/-- the value is the enum constant `m`, and `m`'s literal type is of the matching kind -/
def litOk (m : Member) : GoVal → Bool
  | .int r => (match enumLiteral m with | .litNum x => x == r | _ => false)
  | .float r => (match enumLiteral m with | .litNum x => x == r | _ => false)
  | .str s => (match enumLiteral m with | .litStr x => x == s | _ => false)
  | .bool b => (match enumLiteral m with | .litBool x => x == b | _ => false)
  | _ => false

/-- key types of maps: strings, or integers written in decimal -/
def keyOk (k : Ty) (key : GoVal) : Bool :=
  match k, key with
  | .basic _ .str, .str _ => true
  | .basic _ .int, .int r => isNumericText r
  | _, _ => false

/-- local name of a member type -/
def localNameOf (env : Env) : Ty → String
  | .ref q => (match env.find? q with | some d => d.name | none => "?")
  | _ => "?"

mutual
def hasType (env : Env) : Nat → Ty → GoVal → Bool
  | 0, _, _ => false
  | fuel + 1, t, v =>
    match t, v with
    | .basic _ .bool, .bool _ => true
    | .basic _ .int, .int _ => true
    | .basic _ .float, .float _ => true
    | .basic _ .str, .str _ => true
    | .time _, .time _ => true
    | .arr n e, .list isSlice _ es =>
      (isSlice == decide (n < 0)) && (n < 0 || es.length == n.toNat) && hasTypeAll env fuel e es
    | .map k e, .map _ kvs => hasTypeEntries env fuel k e kvs
    | .ref q, v =>
      match env.find? q with
      | none => false
      | some d =>
        match d.body, v with
        | .named u, v => hasType env fuel u v
        | .enum _ _ ms _, v => ms.any fun m => litOk m v
        | .struct fs _ _, .struct vals => hasTypeFields env fuel fs vals
        | .union ms, .iface (some (name, mv)) =>
          ms.any (fun m => localNameOf env m == name) && hasType env fuel (memberTy env d name) mv
        | _, _ => false
    | _, _ => false
def hasTypeAll (env : Env) : Nat → Ty → List GoVal → Bool
  | _, _, [] => true
  | fuel, e, v :: vs => hasType env fuel e v && hasTypeAll env fuel e vs
def hasTypeEntries (env : Env) : Nat → Ty → Ty → List (GoVal × GoVal) → Bool
  | _, _, _, [] => true
  | fuel, k, e, (key, v) :: kvs => keyOk k key && hasType env fuel e v && hasTypeEntries env fuel k e kvs
/-- every field that encoding/json serialises has a value of its type -/
def hasTypeFields (env : Env) : Nat → List Field → List (String × GoVal) → Bool
  | _, [], _ => true
  | fuel, f :: fs, vals =>
    (match Tags.goJsonKey f.tag f.name f.goExported with
     | none => true
     | some _ => (match vals.lookup f.name with
       | some v => Tags.opaqueFor f.tag "typescript" || hasType env fuel f.ty v
       | none => false)) && hasTypeFields env fuel fs vals
end

/-! ### the fragment -/

/-- no union at the top of the type or under anonymous containers -/
def noUnion (env : Env) : Ty → Bool
  | .ref q => !isUnionTy env (.ref q)
  | .arr _ e => noUnion env e
  | .map k e => noUnion env k && noUnion env e
  | .ptr _ => false
  | _ => true

/-- anonymous shapes the TypeScript generator handles without a recorded finding -/
def shapeOk : Ty → Bool
  | .arr n e =>
    n != 0 && shapeOk e &&
    (match e with
     | .basic g _ => g != "uint8" && g != "byte"
     | .arr m _ => !(n ≥ 1 && m == -1)
     | .map _ _ => !(n ≥ 1)
     | _ => true)
  | .map k e =>
    (match k with | .basic _ .str => true | .basic _ .int => true | _ => false) && shapeOk e
  | .ptr _ => false
  | .basic _ .none => false
  | _ => true

def plainField (f : Field) : Bool :=
  let opts := tagOptions f.tag
  !opts.contains "omitempty" && !opts.contains "string" && Tags.get f.tag "gomacro" != "ignore" &&
  (Tags.namePart (Tags.get f.tag "json") == "" || Tags.isValidTag (Tags.namePart (Tags.get f.tag "json")))

def fieldTyOk (env : Env) (f : Field) : Bool :=
  shapeOk f.ty && (isUnionTy env f.ty || noUnion env f.ty)

def serialised (fs : List Field) : List Field :=
  fs.filter fun f => (Tags.goJsonKey f.tag f.name f.goExported).isSome

/-- conditions on one declaration -/
def declOk (env : Env) (w : Wrappers) (d : Decl) : Bool :=
  match d.body with
  | .named u =>
    (if w.nameds.contains d.q then
      -- a named slice / map of unions, written element-wise through the generated wrapper
      (match u with
       | .arr n (.ref uq) => decide (n = -1) && isUnionTy env (.ref uq)
       | .map k (.ref uq) =>
         (match k with | .basic _ .str => true | .basic _ .int => true | _ => false) && isUnionTy env (.ref uq)
       | _ => false)
     else shapeOk u && noUnion env u) &&
    (match u with | .basic _ .int => true | _ => d.name != refName env u)
  | .enum _ _ _ _ => true
  | .struct fs _ _ =>
    !fs.isEmpty &&
    (serialised fs).all (fun f => plainField f && fieldTyOk env f) &&
    ((serialised fs).map fun f => Tags.jsonName f.tag f.name).Nodup &&
    ((serialised fs).map (·.name)).Nodup &&
    ((serialised fs).any (fun f => isUnionTy env f.ty) → w.structs.contains d.q)
  | .union ms =>
    ms.all (fun m => noUnion env m && (match m with | .ref _ => true | _ => false)) &&
    (ms.map (localNameOf env)).Nodup

/-- what the declared TypeScript environment has to provide for a declaration: the names its own
declaration and its anonymous children introduce, with their types -/
def needed (env : Env) (d : Decl) : List (String × TsType) :=
  tsEnvOf (declOfNamed env d ++ (childTys d).flatMap (declsOfAnon env))

def lookupIs (tenv : List (String × TsType)) (n : String) (t : TsType) : Bool :=
  match tenv.lookup n with | some t' => tsBeq t' t | none => false

structure Fragment (env : Env) (w : Wrappers) (tenv : List (String × TsType)) (ds : List Decl) : Prop where
  found : ∀ d ∈ ds, env.find? d.q = some d
  closed : ∀ d ∈ ds, ∀ q ∈ (childTys d).flatMap Ty.refs, ∃ d' ∈ ds, d'.q = q
  ok : ∀ d ∈ ds, declOk env w d = true
  provided : ∀ d ∈ ds, ∀ p ∈ needed env d, lookupIs tenv p.1 p.2 = true

/-- the same, as a decidable check (what the driver evaluates) -/
def fragmentB (env : Env) (w : Wrappers) (tenv : List (String × TsType)) (ds : List Decl) : Bool :=
  ds.all (fun d => decide (env.find? d.q = some d)) &&
  ds.all (fun d => ((childTys d).flatMap Ty.refs).all fun q => ds.any fun d' => d'.q == q) &&
  ds.all (declOk env w) &&
  ds.all (fun d => (needed env d).all fun p => lookupIs tenv p.1 p.2)

end Gomacro.E2E
